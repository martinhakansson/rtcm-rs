import Rtcm.Proofs.MessageLaws
import Rtcm.Gen.Messages
/-!
# C12  A builder's output depends only on the message, not on what it built before

Subject: `Rtcm.Message.Builder.build` (Model/Message.lean), the model of
`MessageBuilder::build_message` / `clear_data` (src/msg/message.rs).

The buffer of a reachable builder has 1029 bytes, starts with the sync byte `0xd3`, and is the fresh
buffer as long as no build has run (`Inv`).  From such a state the conditional wipe at the start of a
build restores the fresh buffer, so one build gives what a fresh builder gives: the result and the state
left.  `Inv` survives every build whatever its outcome (a frame; `EncodingNotSupported`; a field error or
a panic, after which the number stands in the window): every `put`, hence every encoder of the interpreter,
preserves the buffer length unconditionally, and only indices ≥ 1 are written.

All theorems hold for every build profile `cfg`, every message table `tbl` and every GLONASS
signal table `glo`; nothing is assumed about the messages (token streams may be ill-formed).
-/
namespace Rtcm.C12
open Rtcm.Message Rtcm.Schema

def Inv (b : Builder) : Prop :=
  b.data.length = 1029 ∧ b.data.head? = some 0xd3 ∧ (b.hasRun = false → b.data = freshData)

theorem inv_new : Inv Builder.new := by
  refine ⟨by simp [-List.reduceReplicate, Builder.new, freshData],
          by simp [-List.reduceReplicate, Builder.new, freshData], fun _ => rfl⟩

theorem clear_eq_fresh (b : Builder) (h : Inv b) : clearData b.data = freshData := by
  obtain ⟨hl, hh, _⟩ := h
  unfold clearData freshData
  cases hd : b.data with
  | nil => simp [hd] at hl
  | cons x xs =>
    simp only [hd, List.head?_cons, Option.some.injEq] at hh
    simp only [hd, List.length_cons] at hl
    subst hh
    have hx : xs.length = 1028 := by omega
    simp only [List.take_succ_cons, List.take_zero, List.length_cons, Nat.add_sub_cancel, hx,
      List.singleton_append]

theorem start_eq_fresh (b : Builder) (h : Inv b) : workData b = freshData := by
  unfold workData
  cases hr : b.hasRun with
  | true => simp [clear_eq_fresh b h]
  | false => simp [h.2.2 hr]

/-- One step: from any state satisfying the invariant the outcome of a build, both the result (frame
bytes or error) and the state it leaves, is the outcome a fresh builder gives. -/
theorem build_eq_fresh (cfg : Cfg) (tbl : List MsgRow) (glo : SigTable) (b : Builder) (h : Inv b) (m : Msg) :
    b.build cfg tbl glo m = Builder.new.build cfg tbl glo m :=
  build_congr ((start_eq_fresh b h).trans (start_eq_fresh _ inv_new).symm) cfg tbl glo m

theorem goodBuf_fresh : GoodBuf freshData := ⟨inv_new.1, inv_new.2.1⟩

theorem inv_of_goodBuf {d : List Nat} (h : GoodBuf d) : Inv { data := d, hasRun := true } :=
  ⟨h.1, h.2, fun hr => by simp at hr⟩

/-- `Inv` is preserved by `build_message` for every message and every outcome: a frame, an
error (`EncodingNotSupported`, a field error after the number was written), or a panic. -/
theorem inv_build (cfg : Cfg) (tbl : List MsgRow) (glo : SigTable) (b : Builder) (h : Inv b) (m : Msg) :
    Inv (b.build cfg tbl glo m).1 := by
  have hg : GoodBuf (workData b) := start_eq_fresh b h ▸ goodBuf_fresh
  obtain ⟨d, e, hd⟩ := build_fst sameLen_putInv cfg tbl glo b m
  rw [e]
  apply inv_of_goodBuf
  rcases hd with rfl | ⟨c, hc, rfl | rfl⟩
  · exact hg
  · exact goodBuf_putBack hg (hc.trans (window_length hg))
  · exact goodBuf_sealed hg (hc.trans (window_length hg))

theorem inv_foldl (cfg : Cfg) (tbl : List MsgRow) (glo : SigTable) :
    ∀ (hist : List Msg) (b : Builder), Inv b → Inv (hist.foldl (fun b x => (b.build cfg tbl glo x).1) b) := by
  intro hist
  induction hist with
  | nil => intro b h; exact h
  | cons x xs ih => intro b h; exact ih _ (inv_build cfg tbl glo b h x)

theorem inv_reachable (cfg : Cfg) (tbl : List MsgRow) (glo : SigTable) (hist : List Msg) :
    Inv (hist.foldl (fun b x => (b.build cfg tbl glo x).1) Builder.new) :=
  inv_foldl cfg tbl glo hist _ inv_new

/-- After any finite history of builds (successful, failing or panicking ones alike)
the result of building `m` (the frame bytes, or the error) is the result a fresh builder gives. -/
theorem build_history_independent (cfg : Cfg) (tbl : List MsgRow) (glo : SigTable) (hist : List Msg) (m : Msg) :
    ((hist.foldl (fun b x => (b.build cfg tbl glo x).1) Builder.new).build cfg tbl glo m).2
      = (Builder.new.build cfg tbl glo m).2 :=
  congrArg Prod.snd (build_eq_fresh cfg tbl glo _ (inv_reachable cfg tbl glo hist) m)

theorem buildSeq_append (cfg : Cfg) (tbl : List MsgRow) (glo : SigTable) :
    ∀ (hist : List Msg) (b : Builder) (m : Msg),
      buildSeq cfg tbl glo b (hist ++ [m])
        = buildSeq cfg tbl glo b hist
          ++ [((hist.foldl (fun b x => (b.build cfg tbl glo x).1) b).build cfg tbl glo m).2] := by
  intro hist
  induction hist with
  | nil => intro b m; rfl
  | cons x xs ih =>
    intro b m
    simp only [List.cons_append, buildSeq, List.foldl_cons, ih]

/-- the same for the sequence runner: the last result of a run is what a fresh builder returns
for the last message -/
theorem buildSeq_last (cfg : Cfg) (tbl : List MsgRow) (glo : SigTable) (hist : List Msg) (m : Msg) :
    (buildSeq cfg tbl glo Builder.new (hist ++ [m])).getLast?
      = some (Builder.new.build cfg tbl glo m).2 := by
  rw [buildSeq_append, List.getLast?_append, build_history_independent]
  rfl

/-- every result of a run is what a fresh builder returns for that message -/
theorem buildSeq_eq_map (cfg : Cfg) (tbl : List MsgRow) (glo : SigTable) :
    ∀ (ms : List Msg) (b : Builder), Inv b →
      buildSeq cfg tbl glo b ms = ms.map fun m => (Builder.new.build cfg tbl glo m).2 := by
  intro ms
  induction ms with
  | nil => intro b _; rfl
  | cons m ms ih =>
    intro b h
    have e := build_eq_fresh cfg tbl glo b h m
    simp only [buildSeq, List.map_cons, ← e, ih _ (inv_build cfg tbl glo b h m)]

/-! States reached after failing builds. -/

/-- a message without wire form: `EncodingNotSupported`, the buffer stays fresh -/
example (cfg : Cfg) (tbl : List MsgRow) (glo : SigTable) : Inv (Builder.new.build cfg tbl glo .corrupt).1 := by
  show Inv { data := freshData, hasRun := true }
  refine ⟨?_, ?_, ?_⟩
  · decide +kernel
  · decide +kernel
  · decide +kernel

/-- 1230 with a signal the bias list does not know: an error; the builder is left with the number in the
window (≠ fresh) and satisfies `Inv` -/
example (cfg : Cfg) :
    let r := Builder.new.build cfg Gen.messageTable Gen.sigTable_glo
      (.typed 1230 [.int 7, .int 1, .count 1, .sig 9 9, .flt 0])
    r.2.isOk = false ∧ r.2.isPanic = false ∧ r.1.data ≠ freshData ∧ Inv r.1 := by
  unfold Inv
  cases cfg with
  | mk ck => cases ck <;> decide +kernel

/-- the next build from that state gives the frame a fresh builder gives (instance of the theorem) -/
example (cfg : Cfg) (m : Msg) :
    let b := (Builder.new.build cfg Gen.messageTable Gen.sigTable_glo
      (.typed 1230 [.int 7, .int 1, .count 1, .sig 9 9, .flt 0])).1
    (b.build cfg Gen.messageTable Gen.sigTable_glo m).2
      = (Builder.new.build cfg Gen.messageTable Gen.sigTable_glo m).2 :=
  build_history_independent cfg Gen.messageTable Gen.sigTable_glo [_] m

end Rtcm.C12
