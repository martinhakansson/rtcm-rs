import Rtcm.Proofs.Frame
import Rtcm.Model.Message
/-!
# C13  A frame's interpretation does not depend on the bytes that follow it

`frameNew` returns the whole record of observable attributes (`frame_data`, `data`, `crc`,
`message_number`; the two lengths are the lengths of the first two); the decoded message is a
function of that record (`Message::from_message_frame` reads only `message_number()` and `data()`).
-/
namespace Rtcm.C13

/-- Appending arbitrary bytes after an accepted slice changes no attribute. -/
theorem suffix_irrelevant (d : List UInt8) (x : Frame) (h : frameNew d = .ok x) (sfx : List UInt8) :
    frameNew (d ++ sfx) = .ok x :=
  frameNew_append_ok d sfx x h

/-- In particular for the frame's own L+6 bytes. -/
theorem frame_bytes_suffice (d : List UInt8) (x : Frame) (h : frameNew d = .ok x) :
    frameNew x.frameData = .ok x :=
  frameNew_frameData d x h

/-- The message number is the first 12 payload bits when the payload has at least two bytes and
is absent otherwise. -/
theorem message_number_spec (d : List UInt8) (x : Frame) (h : frameNew d = .ok x) :
    x.number = if 2 ≤ x.dataLen then some ((byteAt x.data 0 <<< 4) ||| (byteAt x.data 1 >>> 4))
               else none := by
  rw [frameNew_ok_iff] at h
  obtain ⟨h6, hp, hle, hc, hf⟩ := h
  subst hf
  have hdl : ((d.drop 3).take (lenField d)).length = lenField d := by simp; omega
  simp only [Frame.dataLen, hdl]
  by_cases h2 : 2 ≤ lenField d
  · simp only [h2, if_true]
    have e : ∀ i, i < lenField d → byteAt ((d.drop 3).take (lenField d)) i = byteAt d (3 + i) := by
      intro i hi
      simp [byteAt, List.getD_eq_getElem?_getD, hi]
    rw [e 0 (by omega), e 1 (by omega)]
  · simp [h2]

theorem message_number_lt (d : List UInt8) (x : Frame) (h : frameNew d = .ok x) (n : Nat)
    (hn : x.number = some n) : n < 4096 := by
  rw [frameNew_ok_iff] at h
  obtain ⟨_, _, _, _, hf⟩ := h
  subst hf
  simp only at hn
  split at hn
  · simp only [Option.some.injEq] at hn
    subst hn
    have h3 := byteAt_lt d 3
    have h4 := byteAt_lt d 4
    exact Nat.or_lt_two_pow (n := 12) (by rw [Nat.shiftLeft_eq]; omega)
      (by rw [Nat.shiftRight_eq_div_pow]; omega)
  · simp at hn

/-- The decoded message is a function of the accepted frame record, hence it too is unchanged by
appended bytes (for any dispatch table and build profile). -/
theorem decoded_message_suffix_irrelevant (cfg : Cfg) (tbl : List Schema.MsgRow) (d sfx : List UInt8)
    (x : Frame) (h : frameNew d = .ok x) :
    (match frameNew (d ++ sfx) with
      | .ok y => some (Message.decodeFrame cfg tbl y)
      | .error _ => none) = some (Message.decodeFrame cfg tbl x) := by
  rw [suffix_irrelevant d x h sfx]

/-! Non-vacuity: frames with L = 0 and L = 1, whose payload is too short for a message number,
followed by bytes that would read as one (defect D1: `message_number()` must not look past the
payload), and an ordinary frame. -/
example : (frameNew ([0xd3, 0x00, 0x00, 0x47, 0xea, 0x4b] ++ [1, 2, 3, 4])).toOption.map (·.number)
    = some none := by decide +kernel
example : (frameNew (mkFrame 0 [0x3e] ++ [0xd0, 2, 3, 4])).toOption.map (·.number) = some none := by
  decide +kernel
example : (frameNew (mkFrame 0 [0x3e, 0xd0] ++ [9, 9])).toOption.map (·.number) = some (some 1005) := by
  decide +kernel

end Rtcm.C13
