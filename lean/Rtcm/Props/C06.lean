import Rtcm.Proofs.Scan
/-!
# C06  Frame delivery does not depend on how the stream is split into chunks

Caller protocol (`StreamState.feed`): append the new piece to what remains, call the scanner,
drop the reported consumed bytes, repeat while a frame is delivered.
-/
namespace Rtcm.C06

/-- Feeding a stream in arbitrary consecutive pieces delivers the same frames, in the same order,
consumes the same total and leaves the same unconsumed remainder as scanning it whole. -/
theorem chunking_irrelevant (chunks : List (List UInt8)) :
    feedAll chunks = feedAll [chunks.flatten] := by
  rw [feedAll_eq_feed, feedAll_eq_feed, List.flatten_singleton]

/-- Explicit form: what is delivered and consumed is a function of the concatenated stream. -/
theorem feedAll_eq (chunks : List (List UInt8)) :
    (feedAll chunks).delivered = (drainAll chunks.flatten).1 ∧
    (feedAll chunks).buf = (drainAll chunks.flatten).2 ∧
    (feedAll chunks).consumed + (feedAll chunks).buf.length = chunks.flatten.length := by
  rw [feedAll_eq_feed]
  exact feed_init _

/-- Two different ways of cutting the same stream agree. -/
theorem any_two_chunkings_agree (cs cs' : List (List UInt8)) (h : cs.flatten = cs'.flatten) :
    feedAll cs = feedAll cs' := by
  rw [feedAll_eq_feed, feedAll_eq_feed, h]

/-- Generalisation to arbitrary schedules: any interleaving of appending pieces and single scanner
calls (each time dropping what was reported consumed), finished by draining, delivers the frames of
the whole stream, leaves the same remainder and has consumed the same total. -/
theorem any_schedule (ops : List StreamOp) :
    ((ops.foldl StreamState.step .init).finish).delivered = (drainAll (appended ops)).1 ∧
    ((ops.foldl StreamState.step .init).finish).buf = (drainAll (appended ops)).2 ∧
    ((ops.foldl StreamState.step .init).finish).consumed + ((ops.foldl StreamState.step .init).finish).buf.length
      = (appended ops).length := by
  rw [finish_eq_feed, feed_schedule, List.append_nil]
  exact feed_init _

/-! Non-vacuity: a cut inside the preamble/length field, the payload and the checksum. -/
example :
    let v := mkFrame 0 [0x3e, 0xd0, 7]
    let s := [9, 5] ++ v ++ v
    (feedAll [s.take 3, (s.drop 3).take 4, (s.drop 7).take 3, s.drop 10]).delivered.length = 2 := by
  decide +kernel

end Rtcm.C06
