import Rtcm.Props.C12
/-!
# C12 over both entry points of the builder

Subject: `Rtcm.Message.Builder.buildGen` and `Builder.step` (Model/BuilderGen.lean), the model of
`MessageBuilder::build_generated_message` next to `build_message` (src/msg/message.rs).

The body of a generated message is an arbitrary function on the bit-writer state (`BodyWriter`).
The one thing asked of it is `WindowSafe`: when it succeeds, the buffer it hands back has the
length of the buffer it was given. In Rust this is not an assumption: the assembler writes through
`&mut [u8]` of fixed length 1023 and cannot change it; the hypothesis only excludes functions of
the model's type that no Rust body corresponds to. Nothing is asked on the `.err` / `.panic` path:
the model then keeps the buffer as it was after the number (`put w1`, see the note at `buildGen`).
Every writer made of `Bits.put` calls is `WindowSafe` (`windowSafe_putAll`).

With that the invariant of C12 survives a generated build for every outcome, and one step from an
invariant state is a fresh builder's step, with no hypothesis on the writer of that step.  The two entry
points share prologue and epilogue: `build_message` of a typed message is `build_generated_message` for
the writer "encode this value".
-/
namespace Rtcm.C12
open Rtcm.Message Rtcm.Schema

def WindowSafe (w : BodyWriter) : Prop :=
  ∀ c c', w c = .ok c' → c'.data.length = c.data.length

/-- `WindowSafe` for the optional writer of `buildGen` (`none`: unknown number, nothing to ask) -/
def WindowSafeOpt : Option BodyWriter → Prop
  | none => True
  | some w => WindowSafe w

def _root_.Rtcm.Message.Step.Safe : Step → Prop
  | .msg _ => True
  | .gen _ w => WindowSafeOpt w

/-- One generated build: from any state satisfying the invariant the outcome (frame bytes, error,
panic, and the state left) is the outcome a fresh builder gives. No hypothesis on `w`. -/
theorem buildGen_eq_fresh (cfg : Cfg) (b : Builder) (h : Inv b) (n : Nat) (w : Option BodyWriter) :
    b.buildGen cfg n w = Builder.new.buildGen cfg n w :=
  buildGen_congr ((start_eq_fresh b h).trans (start_eq_fresh _ inv_new).symm) cfg n w

/-- `Inv` is preserved by `build_generated_message` for every number and every outcome: a frame,
`EncodingNotSupported` after the number was written, an error or a panic of the body. -/
theorem inv_buildGen (cfg : Cfg) (b : Builder) (h : Inv b) (n : Nat) (w : Option BodyWriter)
    (hw : WindowSafeOpt w) : Inv (b.buildGen cfg n w).1 := by
  have hg : GoodBuf (workData b) := start_eq_fresh b h ▸ goodBuf_fresh
  rw [buildGen_eq]
  split
  · next w1 o1 hp =>
    have hw1 : w1.length = 1023 := (Bits.put_length hp).trans (window_length hg)
    split
    · next body =>
      split
      · next c hc => exact inv_of_goodBuf (goodBuf_sealed hg ((hw _ _ hc).trans hw1))
      · exact inv_of_goodBuf (goodBuf_putBack hg hw1)
      · exact inv_of_goodBuf (goodBuf_putBack hg hw1)
    · exact inv_of_goodBuf (goodBuf_putBack hg hw1)
  · exact inv_of_goodBuf hg
  · exact inv_of_goodBuf hg

theorem step_eq_fresh (cfg : Cfg) (tbl : List MsgRow) (glo : SigTable) (b : Builder) (h : Inv b)
    (s : Step) : (b.step cfg tbl glo s).2 = (Builder.new.step cfg tbl glo s).2 := by
  cases s with
  | msg m => exact congrArg Prod.snd (build_eq_fresh cfg tbl glo b h m)
  | gen n w => exact congrArg Prod.snd (buildGen_eq_fresh cfg b h n w)

theorem inv_step (cfg : Cfg) (tbl : List MsgRow) (glo : SigTable) (b : Builder) (h : Inv b)
    (s : Step) (hs : s.Safe) : Inv (b.step cfg tbl glo s).1 := by
  cases s with
  | msg m => exact inv_build cfg tbl glo b h m
  | gen n w => exact inv_buildGen cfg b h n w hs

theorem inv_steps (cfg : Cfg) (tbl : List MsgRow) (glo : SigTable) :
    ∀ (hist : List Step) (b : Builder), Inv b → (∀ s ∈ hist, s.Safe) →
      Inv (hist.foldl (fun b x => (b.step cfg tbl glo x).1) b) := by
  intro hist
  induction hist with
  | nil => intro b h _; exact h
  | cons x xs ih =>
    intro b h hs
    exact ih _ (inv_step cfg tbl glo b h x (hs x (List.mem_cons_self ..)))
      (fun s hm => hs s (List.mem_cons_of_mem _ hm))

theorem inv_reachable_steps (cfg : Cfg) (tbl : List MsgRow) (glo : SigTable) (hist : List Step)
    (hs : ∀ s ∈ hist, s.Safe) :
    Inv (hist.foldl (fun b x => (b.step cfg tbl glo x).1) Builder.new) :=
  inv_steps cfg tbl glo hist _ inv_new hs

/-- Whatever the builder was used for earlier (any finite history of
`build_message` and `build_generated_message` calls, with any outcomes), the result of one more
call `s` of either kind (frame bytes, error or panic) is the result a new builder gives.
The writers of the history are `WindowSafe`; the final step is arbitrary. -/
theorem step_history_independent (cfg : Cfg) (tbl : List MsgRow) (glo : SigTable)
    (hist : List Step) (hs : ∀ s ∈ hist, s.Safe) (s : Step) :
    ((hist.foldl (fun b x => (b.step cfg tbl glo x).1) Builder.new).step cfg tbl glo s).2
      = (Builder.new.step cfg tbl glo s).2 :=
  step_eq_fresh cfg tbl glo _ (inv_reachable_steps cfg tbl glo hist hs) s

/-- every result of a run over both entry points is what a new builder returns for that step -/
theorem stepSeq_eq_map (cfg : Cfg) (tbl : List MsgRow) (glo : SigTable) :
    ∀ (ss : List Step) (b : Builder), Inv b → (∀ s ∈ ss, s.Safe) →
      stepSeq cfg tbl glo b ss = ss.map fun s => (Builder.new.step cfg tbl glo s).2 := by
  intro ss
  induction ss with
  | nil => intro b _ _; rfl
  | cons s ss ih =>
    intro b h hs
    simp only [stepSeq, List.map_cons, step_eq_fresh cfg tbl glo b h s,
      ih _ (inv_step cfg tbl glo b h s (hs s (List.mem_cons_self ..)))
        (fun t hm => hs t (List.mem_cons_of_mem _ hm))]

/-- the body writer "encode the value `toks` with the layout `frag`" (a leftover token is the
`tokens: trailing tokens` panic of `Builder.build`) -/
def encWriter (cfg : Cfg) (glo : SigTable) (frag : Frag) (toks : List Tok) : BodyWriter := fun c =>
  match Interp.encFrag cfg glo frag toks c with
  | .ok (c', rest) => if !rest.isEmpty then .panic "tokens: trailing tokens" else .ok c'
  | .err e => .err e
  | .panic s => .panic s

theorem windowSafe_encWriter (cfg : Cfg) (glo : SigTable) (frag : Frag) (toks : List Tok) :
    WindowSafe (encWriter cfg glo frag toks) := by
  intro c c' h
  unfold encWriter at h
  split at h
  · next c1 rest henc =>
    split at h
    · cases h
    · cases h
      exact Interp.encFrag_length cfg glo _ _ _ _ _ henc
  · cases h
  · cases h

/-- `build_message` of a typed message whose number has a row returns what
`build_generated_message` returns for that number and the writer `encWriter` of its layout. -/
theorem build_eq_buildGen (cfg : Cfg) (tbl : List MsgRow) (glo : SigTable) (b : Builder)
    (n : Nat) (toks : List Tok) (row : MsgRow) (hrow : findRow tbl n = some row) :
    (b.build cfg tbl glo (.typed n toks)).2
      = (b.buildGen cfg n (some (encWriter cfg glo row.frag toks))).2 := by
  rw [build_typed, buildGen_eq, hrow]
  dsimp only [encWriter]
  cases Bits.put cfg ⟨.u, 16⟩ (window (workData b)) 0 n 12 with
  | ok p =>
    dsimp only
    cases Interp.encFrag cfg glo row.frag toks { data := p.1, off := p.2 } with
    | ok q =>
      dsimp only
      split
      · rfl
      · rfl
    | err e => rfl
    | panic s => rfl
  | err e => rfl
  | panic s => rfl

/-- write the fields `(value, bit length)` one after the other with `Assembler::put::<U16>`: the writer of
the examples below, stated on the model's types alone (the proofs' `Layout.putAll` is the same loop over
`Layout.Item`s and is not used here) -/
def putAll (cfg : Cfg) : List (Nat × Nat) → BodyWriter
  | [], c => .ok c
  | (v, len) :: fs, c =>
    match Bits.put cfg ⟨.u, 16⟩ c.data c.off v len with
    | .ok (d, o) => putAll cfg fs { data := d, off := o }
    | .err e => .err e
    | .panic s => .panic s

theorem windowSafe_putAll (cfg : Cfg) (fs : List (Nat × Nat)) : WindowSafe (putAll cfg fs) := by
  induction fs with
  | nil => intro c c' h; cases h; rfl
  | cons f fs ih =>
    intro c c' h
    obtain ⟨v, len⟩ := f
    unfold putAll at h
    split at h
    · next d o hp => rw [ih _ _ h]; exact Bits.put_length hp
    · cases h
    · cases h

/-! Non-vacuity: stale ones under the last byte of the next frame. -/

/-- A two-step history over both entry points: a `build_message` that fails after the number (1230 with a
signal its bias list does not know), then a generated 1005 whose body is 36 one bits, so that bytes
`data[4..9]` of the builder are `df ff ff ff ff`. The next call generates a shorter 1006 (26 bits:
the last payload byte `data[6]` receives two bits). The builder holds `0xff` at that index, the
returned frame has `0xc0` there (the six bits behind the cursor are zero), and the frame is the one
a new builder returns. -/
example (cfg : Cfg) :
    let wLong : BodyWriter := putAll cfg [(0xFFFF, 16), (0xFFF, 12), (0xFF, 8)]
    let wShort : BodyWriter := putAll cfg [(0x2A5, 10), (0x3, 4)]
    let hist : List Step :=
      [.msg (.typed 1230 [.int 7, .int 1, .count 1, .sig 9 9, .flt 0]), .gen 1005 (some wLong)]
    let b := hist.foldl (fun b x => (b.step cfg Gen.messageTable Gen.sigTable_glo x).1) Builder.new
    let r := b.step cfg Gen.messageTable Gen.sigTable_glo (.gen 1006 (some wShort))
    (∀ s ∈ hist, s.Safe) ∧ b.data.take 9 = [0xd3, 0, 6, 0x3e, 0xdf, 0xff, 0xff, 0xff, 0xff] ∧
      (match r.2 with | .ok f => f | _ => []) = [0xd3, 0, 4, 0x3e, 0xea, 0x94, 0xc0, 0xfe, 0xd5, 0x54] ∧
      r.2 = (Builder.new.step cfg Gen.messageTable Gen.sigTable_glo (.gen 1006 (some wShort))).2 := by
  intro wLong wShort hist b r
  have hs : ∀ s ∈ hist, s.Safe := by
    intro s hm
    simp only [hist, List.mem_cons, List.mem_nil_iff, or_false] at hm
    rcases hm with rfl | rfl
    · trivial
    · exact windowSafe_putAll cfg _
  -- the two byte facts share one evaluation of the history per profile
  refine ⟨hs, and_assoc.1 ⟨?_, step_history_independent cfg _ _ hist hs _⟩⟩
  cases cfg with
  | mk ck => cases ck <;> decide +kernel

/-- an unknown number: `EncodingNotSupported`, and the number stays in the buffer (≠ fresh) -/
example (cfg : Cfg) :
    let r := Builder.new.buildGen cfg 4000 none
    r.2.isOk = false ∧ r.2.isPanic = false ∧ r.1.data.take 6 = [0xd3, 0, 0, 0xfa, 0, 0] ∧ Inv r.1 := by
  intro r
  -- the first three facts by one evaluation per profile, the invariant by the theorem
  refine and_assoc.1 (and_assoc.1 ⟨?_, inv_buildGen cfg _ inv_new _ _ trivial⟩)
  cases cfg with
  | mk ck => cases ck <;> decide +kernel

end Rtcm.C12
