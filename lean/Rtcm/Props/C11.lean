import Rtcm.Props.C08
import Rtcm.Proofs.BiasFloat
/-!
# C11  Quantisation picks the nearest representable value

For a float-typed scaled field `s` with `wf s` (`DfWf.wf`, as in C08) and a finite float input `v`
(given by its bit pattern), let `r = fl(res)`, `b = fl(bias)` be the rounded constants and
`t = (v - b)/r` the exact rational grid coordinate. The theorems assume that `t` lies in the
field's signed range `[svLo s, svHi s]` (`Input`) and speak of the integer `k = kOf s bits` of the
rational model of the encoder, which is what `Df.quantise` puts (`quantise_eq`). Exact
round-half-away is *not* claimed at (or within `delta s` of) the half-way points, where the three
float roundings of the encoder decide.
-/
namespace Rtcm.C11
open Rtcm.Schema Rtcm.Df Rtcm.SoftFloat Rtcm.DfWf Rtcm.DfLaws

/-- `DfWf.wfBasic` written out once more (as is `C08.wfBasic`): the three are one definition -/
def wfBasic (s : DfSpec) : Bool :=
  decide (1 ≤ s.len) && decide (s.len ≤ s.it.w) &&
  (s.it.w == 8 || s.it.w == 16 || s.it.w == 32 || s.it.w == 64)

theorem table_wfBasic : Gen.dfTable.all wfBasic = true := C08.table_wfBasic

abbrev wf (s : DfSpec) : Bool := DfWf.wf s

theorem table_wf : Gen.dfTable.all wf = true := C08.table_wf

/-- the finite value denoted by an IEEE bit pattern of the field's float type -/
def valOf (s : DfSpec) (bits : Nat) : ℚ := (ofBits (fmtOf s.dt) bits).toRat

def tOf (s : DfSpec) (bits : Nat) : ℚ := (valOf s bits - biasVal s) / resVal s

/-- the integer the encoder computes (rational model of the `df!` encode body) -/
def kOf (s : DfSpec) (bits : Nat) : Int :=
  qk (fmtOf s.dt) s.bias.isSome (resVal s) (biasVal s) (valOf s bits)

/-- `δ(s) = u·K(1+u) + u·K + u·(K+1)`, `u = 2^-p`, `K = 2^len` -/
def delta (s : DfSpec) : ℚ := deltaNum (num (fmtOf s.dt) s.len (resVal s) (biasVal s))

/-- `slack(s) = δ(s)·r + u·(M1 + M2)`, `M1 = K·r`, `M2 = M1(1+u) + b` -/
def slack (s : DfSpec) : ℚ := slackNum (num (fmtOf s.dt) s.len (resVal s) (biasVal s)) (resVal s)

/-- admissible input: a finite float whose grid coordinate is within the signed range of the field -/
structure Input (s : DfSpec) (bits : Nat) : Prop where
  finite : (ofBits (fmtOf s.dt) bits).isFinite = true
  lo : ((svLo s : Int) : ℚ) ≤ tOf s bits
  hi : tOf s bits ≤ ((svHi s : Int) : ℚ)

private theorem core {s : DfSpec} {bits : Nat} (hw : wf s = true) (hf : s.dt.isFloat = true)
    (hin : Input s bits) :
    ∃ re, DfWf.wfBasic s = true ∧ FltOK s re (resVal s) (biasVal s) ∧
      (ofBits (fmtOf s.dt) bits).Val (valOf s bits) ∧
      valOf s bits - biasVal s = tOf s bits * resVal s ∧
      |tOf s bits| ≤ (num (fmtOf s.dt) s.len (resVal s) (biasVal s)).K ∧
      (s.bias.isSome = true → biasVal s ≤ valOf s bits) := by
  obtain ⟨hbas, re, ok⟩ := wf_flt hw hf
  have hr := ok.numOK.r_pos
  have ht : valOf s bits - biasVal s = tOf s bits * resVal s :=
    (div_mul_cancel₀ _ hr.ne').symm
  refine ⟨re, hbas, ok, ofBits_val _ _ hin.finite, ht, abs_le_K hbas hin.lo hin.hi, fun h => ?_⟩
  obtain ⟨be, hbe⟩ := Option.isSome_iff_exists.mp h
  have hlo := hin.lo
  rw [(sv_bounds hbas).lo_u (ok.bias_some be hbe).2] at hlo
  have : 0 ≤ tOf s bits * resVal s := mul_nonneg (by exact_mod_cast hlo) hr.le
  linarith

theorem delta_lt_half (s : DfSpec) (hw : wf s = true) (hf : s.dt.isFloat = true) :
    delta s < 1 / 2 := by
  obtain ⟨-, re, ok⟩ := wf_flt hw hf
  exact ok.numOK.hdq

/-- the encoder's integer is within `1/2 + δ(s)` of the exact grid coordinate, hence it is the
floor or the ceiling of it -/
theorem quantise_neighbour (s : DfSpec) (bits : Nat) (hw : wf s = true)
    (hf : s.dt.isFloat = true) (hin : Input s bits) :
    |(kOf s bits : ℚ) - tOf s bits| ≤ 1 / 2 + delta s ∧
      (kOf s bits = ⌊tOf s bits⌋ ∨ kOf s bits = ⌈tOf s bits⌉) := by
  obtain ⟨re, -, ok, hv, ht, hK, hge⟩ := core hw hf hin
  obtain ⟨-, -, -, hk⟩ := quant_chain ok.numOK s.bias.isSome ok.bias_none _ _ ht hK
  refine ⟨hk, floor_or_ceil_of_abs_lt_one (hk.trans_lt ?_)⟩
  have := delta_lt_half s hw hf
  unfold delta at this
  linarith

/-- the hypotheses are satisfiable: `df011` (f64, unsigned 24 bits, res 0.02) on `v = 1234.56`;
`df025` (f64, signed 38 bits, res 1e-4) on `v = -1234.5678`;
`df564` (f32, unsigned 16 bits, res 0.01, bias 1900.0) on `v = 2000.0` -/
example : wf Gen.df_df011 = true ∧ Gen.df_df011.dt.isFloat = true ∧
    Input Gen.df_df011 4653144467747100426 :=
  ⟨by decide +kernel, by decide +kernel, ⟨by decide +kernel, by decide +kernel, by decide +kernel⟩⟩

example : wf Gen.df_df025 = true ∧ Gen.df_df025.dt.isFloat = true ∧
    Input Gen.df_df025 13876516538906639021 :=
  ⟨by decide +kernel, by decide +kernel, ⟨by decide +kernel, by decide +kernel, by decide +kernel⟩⟩

example : wf Gen.df_df564 = true ∧ Gen.df_df564.dt.isFloat = true ∧
    Input Gen.df_df564 1157234688 :=
  ⟨by decide +kernel, by decide +kernel, ⟨by decide +kernel, by decide +kernel, by decide +kernel⟩⟩

/-- the encoder's integer is one of the field's readings; `Bits.ofInt` does not wrap -/
theorem inrange_no_wrap (s : DfSpec) (bits : Nat) (hw : wf s = true)
    (hf : s.dt.isFloat = true) (hin : Input s bits) :
    DfWf.InRange s (kOf s bits) ∧
      carrierVal s.it (Bits.ofInt s.it.w (kOf s bits)) = kOf s bits := by
  obtain ⟨-, hk⟩ := quantise_neighbour s bits hw hf hin
  have hr : DfWf.InRange s (kOf s bits) := by
    rcases hk with h | h <;> rw [h]
    · exact ⟨Int.le_floor.mpr hin.lo, Int.cast_le.mp ((Int.floor_le _).trans hin.hi)⟩
    · exact ⟨Int.cast_le.mp (hin.lo.trans (Int.le_ceil _)), Int.ceil_le.mpr hin.hi⟩
  exact ⟨hr, carrierVal_inRange (wf_flt hw hf).1 hr⟩

/-- `Df.quantise` on an admissible input succeeds with the model integer -/
theorem quantise_eq (s : DfSpec) (bits : Nat) (hw : wf s = true)
    (hf : s.dt.isFloat = true) (hin : Input s bits) :
    Df.quantise s (.flt bits) = .ok (Bits.ofInt s.it.w (kOf s bits)) := by
  obtain ⟨re, hbas, ok, hv, ht, hK, hge⟩ := core hw hf hin
  obtain ⟨n1, n2, n3, -⟩ := quant_chain ok.numOK s.bias.isSome ok.bias_none _ _ ht hK
  rw [quantise_flt hf ok _ hv hge (fun _ => n1) n2 n3]
  show Res.ok (Bits.ofInt s.it.w (clampI (kOf s bits) _ _)) = _
  rw [clampI_inRange hbas (inrange_no_wrap s bits hw hf hin).1]

/-- decoding what was encoded lands within half a resolution step (plus explicit slack) of the
input -/
theorem quantise_error (cfg : Cfg) (s : DfSpec) (bits : Nat) (hw : wf s = true)
    (hf : s.dt.isFloat = true) (hin : Input s bits) :
    ∃ bits', Df.dequantise cfg s (kOf s bits) = .ok (.flt bits') ∧
      (ofBits (fmtOf s.dt) bits').isFinite = true ∧
      |valOf s bits' - valOf s bits| ≤ resVal s / 2 + slack s := by
  obtain ⟨re, hbas, ok, -, ht, -, -⟩ := core hw hf hin
  obtain ⟨hk, -⟩ := quantise_neighbour s bits hw hf hin
  obtain ⟨X, hdq, hrt, hXv, -, e1, e2, -⟩ :=
    dequantise_flt cfg hf hbas ok (inrange_no_wrap s bits hw hf hin).1
  refine ⟨_, hdq, by rw [hrt]; exact hXv.isFinite, ?_⟩
  rw [valOf, hrt, hXv.toRat]
  refine (recon_err ok.numOK.r_pos ht hk e1 e2).trans_eq ?_
  rw [slack, slackNum, delta, num_u]
  ring

/-- the model integer is monotone in the input value (any two bit patterns of the float type) -/
theorem quantise_monotone (s : DfSpec) (bits bits' : Nat) (hw : wf s = true)
    (hf : s.dt.isFloat = true) (h : valOf s bits ≤ valOf s bits') :
    kOf s bits ≤ kOf s bits' := by
  obtain ⟨-, re, ok⟩ := wf_flt hw hf
  exact qk_mono (fmtOf_p_pos s.dt) ok.numOK.r_pos _ h

example : valOf Gen.df_df011 4653144467747100426 ≤ valOf Gen.df_df011 4653144511727565537 := by
  decide +kernel

/-- monotonicity stated on the encoder's outputs: both inputs admissible, `v ≤ v'`; then both
calls succeed, with integers `k ≤ k'` -/
theorem quantise_monotone' (s : DfSpec) (bits bits' : Nat) (hw : wf s = true)
    (hf : s.dt.isFloat = true) (hin : Input s bits) (hin' : Input s bits')
    (h : valOf s bits ≤ valOf s bits') :
    ∃ k k' : Int, Df.quantise s (.flt bits) = .ok (Bits.ofInt s.it.w k) ∧
      Df.quantise s (.flt bits') = .ok (Bits.ofInt s.it.w k') ∧
      carrierVal s.it (Bits.ofInt s.it.w k) = k ∧ carrierVal s.it (Bits.ofInt s.it.w k') = k' ∧
      k ≤ k' :=
  ⟨_, _, quantise_eq s bits hw hf hin, quantise_eq s bits' hw hf hin',
    (inrange_no_wrap s bits hw hf hin).2, (inrange_no_wrap s bits' hw hf hin').2,
    quantise_monotone s bits bits' hw hf h⟩

/-! The hand-written scaled fields.
`bias_m` of 1059 / 1065 (`f32`, 0.01 m, 14 bits) and of 1230 (`f32`, 0.02 m, 16 bits) are not `df!`
rows: `Bias.quantBias` / `Bias.dequantBias` model their own arithmetic (`bias /= res; if bias > 0.0
{ bias + 0.5 } else { bias - 0.5 } as i16`). `BiasFloat.quantBias_eq` identifies that arithmetic with
the `df!` quantiser of a synthetic well-formed row, so the theorems above apply to them. -/

/-- the synthetic rows of the two bias grids -/
abbrev bias14 : DfSpec := BiasFloat.spec 14 1
abbrev bias16 : DfSpec := BiasFloat.spec 16 2

/-- `bias14_nearest` / `bias16_nearest` for any grid `(len, m)` -/
theorem bias_nearest (len m : Nat) (res : F) (hres : evalF binary32 (.dec m (-2)) = res)
    (hw : wf (BiasFloat.spec len m) = true) (bits : Nat) (hin : Input (BiasFloat.spec len m) bits) :
    Bias.quantBias res bits = Bits.ofInt 16 (kOf (BiasFloat.spec len m) bits) ∧
      (kOf (BiasFloat.spec len m) bits = ⌊tOf (BiasFloat.spec len m) bits⌋ ∨
        kOf (BiasFloat.spec len m) bits = ⌈tOf (BiasFloat.spec len m) bits⌉) ∧
      DfWf.InRange (BiasFloat.spec len m) (kOf (BiasFloat.spec len m) bits) ∧
      (ofBits binary32 (Bias.dequantBias res (kOf (BiasFloat.spec len m) bits))).isFinite = true ∧
      |valOf (BiasFloat.spec len m) (Bias.dequantBias res (kOf (BiasFloat.spec len m) bits))
          - valOf (BiasFloat.spec len m) bits| ≤
        resVal (BiasFloat.spec len m) / 2 + slack (BiasFloat.spec len m) := by
  have h1 := quantise_eq _ bits hw rfl hin
  rw [BiasFloat.quantBias_eq len m res hres bits] at h1
  obtain ⟨b', h2, h3⟩ := quantise_error ⟨true⟩ _ bits hw rfl hin
  rw [BiasFloat.dequantBias_eq ⟨true⟩ len m _ hres] at h2
  cases h2
  exact ⟨Res.ok.inj h1, (quantise_neighbour _ bits hw rfl hin).2,
    (inrange_no_wrap _ bits hw rfl hin).1, h3⟩

/-- 1059 / 1065: the selected step is a neighbour of the exact grid coordinate, the value written
does not wrap, and the value read back is within half a step plus the float slack of the input -/
theorem bias14_nearest (bits : Nat) (hin : Input bias14 bits) :
    Bias.quantBias Bias.res001 bits = Bits.ofInt 16 (kOf bias14 bits) ∧
      (kOf bias14 bits = ⌊tOf bias14 bits⌋ ∨ kOf bias14 bits = ⌈tOf bias14 bits⌉) ∧
      (-8192 ≤ kOf bias14 bits ∧ kOf bias14 bits ≤ 8191) ∧
      (ofBits binary32 (Bias.dequantBias Bias.res001 (kOf bias14 bits))).isFinite = true ∧
      |valOf bias14 (Bias.dequantBias Bias.res001 (kOf bias14 bits)) - valOf bias14 bits| ≤
        resVal bias14 / 2 + slack bias14 :=
  bias_nearest 14 1 _ BiasFloat.evalF_001 BiasFloat.wf14 bits hin

/-- 1230: the same on the 0.02 m / 16-bit grid -/
theorem bias16_nearest (bits : Nat) (hin : Input bias16 bits) :
    Bias.quantBias Bias.res002 bits = Bits.ofInt 16 (kOf bias16 bits) ∧
      (kOf bias16 bits = ⌊tOf bias16 bits⌋ ∨ kOf bias16 bits = ⌈tOf bias16 bits⌉) ∧
      (-32768 ≤ kOf bias16 bits ∧ kOf bias16 bits ≤ 32767) ∧
      (ofBits binary32 (Bias.dequantBias Bias.res002 (kOf bias16 bits))).isFinite = true ∧
      |valOf bias16 (Bias.dequantBias Bias.res002 (kOf bias16 bits)) - valOf bias16 bits| ≤
        resVal bias16 / 2 + slack bias16 :=
  bias_nearest 16 2 _ BiasFloat.evalF_002 BiasFloat.wf16 bits hin

/-- the model integer `kOf` of either bias grid is monotone in the input value, with no range
hypothesis; it is what the bias encoder writes for admissible inputs (`bias14_nearest`,
`bias16_nearest`) -/
theorem bias_monotone (bits bits' : Nat) :
    (valOf bias14 bits ≤ valOf bias14 bits' → kOf bias14 bits ≤ kOf bias14 bits') ∧
    (valOf bias16 bits ≤ valOf bias16 bits' → kOf bias16 bits ≤ kOf bias16 bits') :=
  ⟨quantise_monotone bias14 bits bits' BiasFloat.wf14 rfl, quantise_monotone bias16 bits bits' BiasFloat.wf16 rfl⟩

/-- a bias just below zero (−0.001 m = 0xBA83126F) is admissible and is encoded as step 0, not −1 -/
example : Input bias14 0xBA83126F ∧ kOf bias14 0xBA83126F = 0 :=
  ⟨⟨by decide +kernel, by decide +kernel, by decide +kernel⟩, by decide +kernel⟩

end Rtcm.C11
