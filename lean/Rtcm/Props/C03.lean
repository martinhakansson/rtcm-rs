import Rtcm.Proofs.MkFrame
/-!
# C03  A frame is accepted iff preamble, length and CRC-24Q all check out

Model: `Rtcm.frameNew` (`MessageFrame::new`), `Rtcm.crc24q` (bit-serial polynomial
remainder, generator 0x1864CFB, zero initial value, no reflection).
-/
namespace Rtcm.C03

/-- Acceptance is exactly: ≥ 6 bytes, preamble 0xD3, L+6 bytes present, bytes L+3..L+5 equal the
CRC-24Q of the first L+3 bytes; and the accepted frame is then fully determined. -/
theorem accept_iff (d : List UInt8) (f : Frame) :
    frameNew d = .ok f ↔
      (6 ≤ d.length ∧ byteAt d 0 = 0xd3 ∧ lenField d + 6 ≤ d.length ∧
       be24 d (lenField d + 3) = crc24q (d.take (lenField d + 3)) ∧
       f = { frameData := d.take (lenField d + 6)
             data := (d.drop 3).take (lenField d)
             crc := be24 d (lenField d + 3)
             number := if 2 ≤ lenField d then some ((byteAt d 3 <<< 4) ||| (byteAt d 4 >>> 4))
                       else none }) :=
  frameNew_ok_iff d f

/-- The accepted frame reports total length L+6, payload = bytes 3..3+L, and that checksum. -/
theorem accepted_attributes (d : List UInt8) (f : Frame) (h : frameNew d = .ok f) :
    f.frameLen = lenField d + 6 ∧ f.dataLen = lenField d ∧ f.data = (d.drop 3).take (lenField d) ∧
      f.frameData = d.take (lenField d + 6) ∧ f.crc = crc24q (d.take (lenField d + 3)) := by
  have h' := (frameNew_ok_iff d f).mp h
  obtain ⟨h6, _, hl, hc, hf⟩ := h'
  subst hf
  refine ⟨?_, ?_, rfl, rfl, hc⟩
  · simp [Frame.frameLen]; omega
  · simp [Frame.dataLen]; omega

/-- Incomplete: shorter than 6 bytes, or 0xD3 candidate shorter than its declared extent. -/
theorem incomplete_iff (d : List UInt8) :
    frameNew d = .error .incomplete ↔
      (d.length < 6 ∨ (byteAt d 0 = 0xd3 ∧ d.length < lenField d + 6)) :=
  frameNew_incomplete_iff d

/-- Not valid: wrong preamble, or complete candidate with a wrong checksum. -/
theorem notValid_iff (d : List UInt8) :
    frameNew d = .error .notValid ↔
      (6 ≤ d.length ∧ (byteAt d 0 ≠ 0xd3 ∨
        (lenField d + 6 ≤ d.length ∧
          be24 d (lenField d + 3) ≠ crc24q (d.take (lenField d + 3))))) :=
  frameNew_notValid_iff d

/-- The three outcomes are exhaustive (the scanner's `unreachable!()` arm is unreachable). -/
theorem outcomes_exhaustive (d : List UInt8) :
    (∃ f, frameNew d = .ok f) ∨ frameNew d = .error .incomplete ∨ frameNew d = .error .notValid :=
  frameNew_outcomes d

/-- For every payload length 0..=1023 and every value of the six reserved bits, the frame with a
correct checksum is accepted and reports that payload; so the reserved bits do not influence
acceptance (they are covered by the checksum, as the standard prescribes). -/
theorem every_length_accepted (resv : Nat) (payload : List UInt8) (hL : payload.length ≤ 1023) :
    ∃ f, frameNew (mkFrame resv payload) = .ok f ∧ f.data = payload ∧
      f.frameLen = payload.length + 6 ∧ f.frameData = mkFrame resv payload ∧
      f.crc = crc24q (frameHeader resv payload.length ++ payload) :=
  ⟨_, frameNew_mkFrame_nil resv payload hL, rfl, length_mkFrame resv payload, rfl, rfl⟩

/-- The length is read from the low two bits of byte 1 and byte 2 only. -/
theorem length_ignores_reserved_bits (b0 b1 b1' b2 : UInt8) (rest : List UInt8)
    (h : b1.toNat &&& 3 = b1'.toNat &&& 3) :
    lenField (b0 :: b1 :: b2 :: rest) = lenField (b0 :: b1' :: b2 :: rest) := by
  simp [lenField, byteAt, h]

/-- The checksum is the remainder of the message bits followed by 24 zero bits under long division
by the generator: the definition of CRC-24Q. -/
theorem crc_is_polynomial_remainder (d : List UInt8) :
    crc24q d = crcRem 0 (bitsOfBytes d ++ List.replicate 24 false) ∧ crc24q d < 2 ^ 24 :=
  ⟨crc24q_eq_bits d, crc24q_lt d⟩

/-! Non-vacuity: a payload that opens with number 1005 is accepted; a one-bit change is not. -/
example : (match frameNew (mkFrame 0 [0x3e, 0xd0, 0x00, 0x03]) with | .ok f => f.number | _ => none)
    = some 1005 := by decide +kernel
example : crc24q [0xd3, 0x00, 0x00] = 0x47ea4b := by decide +kernel
example : frameNew [0xd3, 0x00, 0x00, 0x47, 0xea, 0x4b] =
    .ok { frameData := [0xd3, 0x00, 0x00, 0x47, 0xea, 0x4b], data := [], crc := 0x47ea4b, number := none } := by
  decide +kernel
example : frameNew [0xd3, 0x00, 0x00, 0x47, 0xea, 0x4a] = .error .notValid := by decide +kernel
example : frameNew [0xd3, 0x00, 0x01, 0x47, 0xea, 0x4b] = .error .incomplete := by decide +kernel

end Rtcm.C03
