import Rtcm.Props.C13
import Rtcm.Props.C19
import Rtcm.Proofs.MessageLaws
import Rtcm.Gen.Messages
/-!
# C14  Decode outcome is classified by message number, exhaustively

Model: `Message.decodeFrame` (`Message::from_message_frame`) over the `message!` table (`Gen.messageTable`).
-/
namespace Rtcm.C14
open Rtcm.Message Rtcm.Schema

/-- Empty exactly when the frame carries no message number (payload shorter than two bytes, C13). -/
theorem empty_iff_no_number (cfg : Cfg) (tbl : List MsgRow) (f : Frame) :
    decodeFrame cfg tbl f = .ok .empty ↔ f.number = none := by
  rcases decodeFrame_cases cfg tbl f with ⟨hn, e⟩ | ⟨n, hn, h⟩
  · exact iff_of_true e hn
  · refine iff_of_false ?_ (hn ▸ nofun)
    rcases h with ⟨_, e⟩ | ⟨row, _, ⟨_, _, _, e⟩ | ⟨_, _, e⟩ | ⟨_, _, e⟩⟩
    · rw [e]; nofun
    · rw [e]; nofun
    · rw [e]; nofun
    · rw [e]; nofun

/-- Decoding an accepted frame yields Empty exactly when its payload is shorter than two bytes. -/
theorem empty_iff_short (cfg : Cfg) (tbl : List MsgRow) (d : List UInt8) (f : Frame)
    (h : frameNew d = .ok f) : decodeFrame cfg tbl f = .ok .empty ↔ f.dataLen < 2 := by
  rw [empty_iff_no_number, C13.message_number_spec d f h]
  split
  · exact iff_of_false nofun (by omega)
  · exact iff_of_true rfl (by omega)

/-- For a number outside the table the outcome is MsgNotSupported carrying that number. -/
theorem unsupported_of_not_in_table (cfg : Cfg) (tbl : List MsgRow) (f : Frame) (n : Nat)
    (hn : f.number = some n) (h : findRow tbl n = none) :
    decodeFrame cfg tbl f = .ok (.notSupported n) := by
  rcases decodeFrame_cases cfg tbl f with ⟨hn', _⟩ | ⟨k, hk, ⟨_, e⟩ | ⟨row, hrow, _⟩⟩
  · cases hn.symm.trans hn'
  · cases hn.symm.trans hk
    exact e
  · cases hn.symm.trans hk
    cases h.symm.trans hrow

/-- For a number in the table the outcome is the typed variant of that very number, or Corrupt
(or a panic of the body decoder, excluded by C02) — never a variant of another number, never
MsgNotSupported, never Empty. -/
theorem typed_or_corrupt_same_number (cfg : Cfg) (tbl : List MsgRow) (f : Frame) (n : Nat) (row : MsgRow)
    (hn : f.number = some n) (h : findRow tbl n = some row) (m : Msg)
    (hm : decodeFrame cfg tbl f = .ok m) : m = .corrupt ∨ ∃ toks, m = .typed n toks := by
  rcases decodeFrame_cases cfg tbl f with
    ⟨hn', _⟩ | ⟨k, hk, ⟨hr, _⟩ | ⟨_, _, ⟨t, _, _, e⟩ | ⟨_, _, e⟩ | ⟨_, _, e⟩⟩⟩
  · cases hn.symm.trans hn'
  · cases hn.symm.trans hk
    cases h.symm.trans hr
  · cases hn.symm.trans hk
    exact .inr ⟨t, Res.ok.inj (hm.symm.trans e)⟩
  · exact .inl (Res.ok.inj (hm.symm.trans e))
  · cases hm.symm.trans e

/-- conversely a typed outcome carries the frame's own number and that number is in the table -/
theorem typed_number_matches (cfg : Cfg) (tbl : List MsgRow) (f : Frame) (k : Nat) (toks : List Tok)
    (hm : decodeFrame cfg tbl f = .ok (.typed k toks)) :
    f.number = some k ∧ (findRow tbl k).isSome := by
  obtain ⟨hn, row, _, hrow, _⟩ := decodeFrame_typed_iff.mp hm
  exact ⟨hn, by rw [hrow]; rfl⟩

theorem findRow_number (tbl : List MsgRow) (n : Nat) (row : MsgRow) (h : findRow tbl n = some row) :
    row.number = n :=
  Message.findRow_number h

/-- `Message::number` of a typed message is the number it is encoded under (the builder writes
`number` into the first 12 payload bits, C09) -/
theorem number_of_typed (tbl : List MsgRow) (n : Nat) (toks : List Tok) (k : Nat)
    (h : number tbl (.typed n toks) = some k) : k = n := by
  simp only [number] at h
  split at h
  · exact (Option.some.inj h).symm
  · cases h

/-! The dispatch table agrees with itself, with the model's table and with the feature lists. -/

def digits (n : Nat) : String := toString n

/-- every row reads `"msgN": MsgN(msgN) = N` -/
def rowConsistent (r : String × String × String × Nat) : Bool :=
  r.1 == "msg" ++ digits r.2.2.2 && r.2.1 == "Msg" ++ digits r.2.2.2 && r.2.2.1 == "msg" ++ digits r.2.2.2

theorem rows_consistent : Gen.dispatchRows.all rowConsistent = true := by decide +kernel

theorem numbers_distinct : (Gen.dispatchRows.map (·.2.2.2)).Nodup := by decide +kernel

/-- same elements (the order in which rows and features are listed does not matter) -/
def sameSet (a b : List String) : Bool :=
  a.length == b.length && a.all b.contains && b.all a.contains

theorem sameSet_of_perm {a b : List String} (h : a.Perm b) : sameSet a b = true := by
  simp only [sameSet, Bool.and_eq_true, beq_iff_eq, List.all_eq_true, List.contains_iff_mem]
  exact ⟨⟨h.length_eq, fun _ => h.mem_iff.1⟩, fun _ => h.mem_iff.2⟩

/-- the set of supported numbers equals the set of message features: what `all_msgs` enables (group
features followed, leaves counted), the `message!` table and the `include_msg!` list name the same
features (without repetition) and the same modules -/
theorem features_agree :
    sameSet (Features.msgFeatures Gen.cargoFeatures) (Gen.dispatchRows.map (·.1)) = true ∧
    sameSet (Gen.includeMsgs.map (·.2)) (Gen.dispatchRows.map (·.1)) = true ∧
    sameSet (Gen.includeMsgs.map (·.1)) (Gen.dispatchRows.map (·.2.2.1)) = true ∧
    (Gen.dispatchRows.map (·.1)).Nodup ∧ Gen.includeMsgs.all (fun r => r.1 == r.2) = true :=
  ⟨sameSet_of_perm C19.msgFeatures_perm, sameSet_of_perm C19.includes_perm,
    sameSet_of_perm (List.isPerm_iff.1 (by decide +kernel)), C19.rows_nodup, by decide +kernel⟩

/-- the model's table is the translated one -/
theorem table_matches_rows :
    Gen.messageTable.map (fun r => (r.feature, r.variant, r.module, r.number)) = Gen.dispatchRows := by
  decide +kernel

theorem numbers_lt_4096 : Gen.dispatchRows.all (fun r => decide (r.2.2.2 < 4096)) = true := by
  decide +kernel

example : (findRow Gen.messageTable 1005).isSome = true := by decide +kernel
example : (findRow Gen.messageTable 1150).isSome = false := by decide +kernel

end Rtcm.C14
