import Rtcm.Proofs.DfFloat
import Rtcm.Proofs.Seq
import Rtcm.Proofs.WFTable
/-!
# C08  Every data field is lossless on its grid and has exactly one 'absent' pattern

The theorems speak of a `df!` row `s` with `wf s` (a decidable Boolean predicate, instantiated on
the whole generated table by `table_wf`) and a signed carrier reading `sv` that `Bits.parse` can
return for a `len`-bit field of the row's kind (`InRange s sv`). The token-level round trip
`df_decode_encode` is what the bit-packer theorems of C07 are composed with.

The float argument (Rtcm/Proofs/DfErr.lean, `deq_chain` / `enc_chain`): with `k = sv`,
`r = fl(res)`, `b = fl(bias)`, `u = 2^-p`, `K = 2^len`: decode computes `x = fl(fl(k·r) + b)`,
encode computes `q = fl(fl(x - b)/r)`; then `|q - k| ≤ E` with the explicit rational
`E = D/r + u·(K·r + D)/r`, `D = u·(M3 + M2 + M1)`, `M1 = K·r`, `M2 = M1(1+u) + b`,
`M3 = M2(1+u) + b`, and `E + u·(K+1) < 1/2` (checked per row in exact `Rat` arithmetic inside
`wf`) forces `trunc(fl(q ± 1/2)) = k`.
-/
namespace Rtcm.C08
open Rtcm.Schema Rtcm.Df Rtcm.DfWf Rtcm.DfLaws

def wfBasic (s : DfSpec) : Bool :=
  decide (1 ≤ s.len) && decide (s.len ≤ s.it.w) &&
  (s.it.w == 8 || s.it.w == 16 || s.it.w == 32 || s.it.w == 64)

/-- full well-formedness of a `df!` row: `DfWf.wf` (Rtcm/Proofs/DfWf.lean) =
`wfBasic s && wfInv s && (if s.dt.isFloat then wfFlt s else wfInt s)` -/
abbrev wf (s : DfSpec) : Bool := DfWf.wf s

/-- the signed carrier readings `Bits.parse` can return for the field -/
abbrev InRange (s : DfSpec) (sv : Int) : Prop := DfWf.InRange s sv

theorem inRange_iff (s : DfSpec) (sv : Int) :
    InRange s sv ↔
      match s.it.kind with
      | .u => 0 ≤ sv ∧ sv < 2 ^ s.len
      | .i => -(2 ^ (s.len - 1)) ≤ sv ∧ sv < 2 ^ (s.len - 1)
      | .sm => -(2 ^ (s.len - 1)) < sv ∧ sv < 2 ^ (s.len - 1) := by
  unfold InRange DfWf.InRange svLo svHi
  rcases s.it.kind <;> simp only <;> omega

theorem table_wf : Gen.dfTable.all wf = true := (Bool.and_eq_true_iff.mp WF.tables_wf).1

theorem wf_of_mem {s : DfSpec} (h : s ∈ Gen.dfTable) : wf s = true :=
  List.all_eq_true.mp table_wf s h

theorem table_wfBasic : Gen.dfTable.all wfBasic = true :=
  List.all_eq_true.mpr fun _ h => (wf_parts (wf_of_mem h)).1

/-- decoding a carrier reading and encoding the result reproduces the carrier value -/
theorem df_value_roundtrip (cfg : Cfg) (s : DfSpec) (sv : Int) (hw : wf s = true)
    (hr : InRange s sv) :
    ∃ t, Df.dequantise cfg s sv = .ok t ∧ Df.quantise s t = .ok (Bits.ofInt s.it.w sv) :=
  value_roundtrip cfg s sv hw hr

example : wf Gen.df_df011 = true ∧ InRange Gen.df_df011 16777214 :=
  by decide +kernel

example : wf Gen.df_df025 = true ∧ InRange Gen.df_df025 (-137438953472) :=
  by decide +kernel

example : wf Gen.df_df134 = true ∧ InRange Gen.df_df134 31 :=
  by decide +kernel

/-- float fields decode to a finite datum (no NaN, no infinity) which is never `-0` -/
theorem df_decoded_finite (cfg : Cfg) (s : DfSpec) (sv : Int) (hw : wf s = true)
    (hr : InRange s sv) (hf : s.dt.isFloat = true) :
    ∃ b, Df.dequantise cfg s sv = .ok (.flt b) ∧
      (SoftFloat.ofBits (fmtOf s.dt) b).isFinite = true ∧
      (SoftFloat.ofBits (fmtOf s.dt) b).isNegZero = false := by
  obtain ⟨b, h1, -, h3, h4⟩ := flt_roundtrip cfg s sv hf hw hr
  exact ⟨b, h1, h3, h4⟩

example : wf Gen.df_df564 = true ∧ InRange Gen.df_df564 65535 ∧ Gen.df_df564.dt.isFloat = true :=
  by decide +kernel

/-- `Df.decode`: the tokens are `[absent]` exactly for the reading `inv`, `[present, t]`
otherwise (`[t]` for a field without `inv`), where `t` is the decoded value -/
theorem df_absent_unique (cfg : Cfg) (s : DfSpec) (c : Cur) (p o : Nat) (hw : wf s = true)
    (hp : Bits.parse cfg s.it c.data c.off s.len = .ok (p, o))
    (hr : InRange s (carrierVal s.it p)) :
    ∃ t, Df.dequantise cfg s (carrierVal s.it p) = .ok t ∧
      Df.decode cfg s c = .ok
        ((match s.inv with
          | some inv => if carrierVal s.it p = inv then [Tok.absent] else [Tok.present, t]
          | none => [t]), { c with off := o }) := by
  obtain ⟨t, ht, -⟩ := df_value_roundtrip cfg s _ hw hr
  exact ⟨t, ht, decode_tokens cfg s c p o t hp ht⟩

/-- "absent" is decoded iff the reading is the `inv` marker -/
theorem df_decode_absent_iff (cfg : Cfg) (s : DfSpec) (c : Cur) (p o : Nat) (hw : wf s = true)
    (hp : Bits.parse cfg s.it c.data c.off s.len = .ok (p, o))
    (hr : InRange s (carrierVal s.it p)) :
    ∃ toks, Df.decode cfg s c = .ok (toks, { c with off := o }) ∧
      (toks = [Tok.absent] ↔ s.inv = some (carrierVal s.it p)) := by
  obtain ⟨t, ht, hq⟩ := df_value_roundtrip cfg s _ hw hr
  refine ⟨_, decode_tokens cfg s c p o t hp ht, ?_⟩
  rcases hi : s.inv with _ | inv
  · -- `quantise` rejects the token `absent`, so `t` is not it
    have hne : t ≠ Tok.absent := by
      rintro rfl
      rcases ((Df.quantise_sat s _).of_ok hq).2 with ⟨_, h⟩ | ⟨_, h⟩ <;> cases h
    simp [hne]
  · simp only
    by_cases h : carrierVal s.it p = inv
    · simp [h]
    · simp only [h, if_false]
      constructor
      · intro h'; cases h'
      · intro h'; cases h'; exact absurd rfl h

/-- the encoder writes the `inv` pattern for "absent" -/
theorem df_encode_absent (cfg : Cfg) (s : DfSpec) (inv : Int) (rest : List Tok) (c : Cur)
    (hinv : s.inv = some inv) :
    Df.encode cfg s (.absent :: rest) c = putPat cfg s c (Bits.ofInt s.it.w inv) rest :=
  encode_absent cfg s inv rest c hinv

/-- the `inv` marker is one of the readings of the field: exactly one absent pattern -/
theorem inv_inRange (s : DfSpec) (inv : Int) (hw : wf s = true) (hinv : s.inv = some inv) :
    InRange s inv := by
  obtain ⟨-, hi, -⟩ := wf_parts hw
  unfold wfInv at hi
  rw [hinv] at hi
  simp only [Bool.and_eq_true, decide_eq_true_eq] at hi
  exact hi

example : wf Gen.df_df011 = true ∧ Gen.df_df011.inv = some 16777215 :=
  by decide +kernel

/-- token-level round trip: whatever `Df.decode` produced for the reading `sv`, `Df.encode` puts
the pattern `Bits.ofInt w sv` -/
theorem df_decode_encode (cfg : Cfg) (s : DfSpec) (c c' : Cur) (p o : Nat) (rest : List Tok)
    (hw : wf s = true) (hp : Bits.parse cfg s.it c.data c.off s.len = .ok (p, o))
    (hr : InRange s (carrierVal s.it p)) :
    ∃ toks, Df.decode cfg s c = .ok (toks, { c with off := o }) ∧
      Df.encode cfg s (toks ++ rest) c' =
        putPat cfg s c' (Bits.ofInt s.it.w (carrierVal s.it p)) rest :=
  decode_encode cfg s c c' p o rest hw hp hr

end Rtcm.C08
