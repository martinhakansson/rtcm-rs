import Rtcm.Model.Serde
import Rtcm.Props.C17
/-!
# C20  Serialising a message with serde and reading it back gives the same message

Partial by nature: the two hand-written string impls are modelled and proved; the derived impls and
the data format are assumed structure-preserving and exercised through serde_json on generated and
decoded messages (see the evidence).
-/
namespace Rtcm.C20
open Rtcm.Text Rtcm.Serde

/-- what every `Df88591String<N>` satisfies: at most N bytes, no zero byte (`push` stores 0xA4) -/
def Inv88591 (N : Nat) (bytes : List Nat) : Prop := bytes.length ≤ N ∧ ∀ b ∈ bytes, 0 < b ∧ b < 256

/-- a descriptor string survives serialisation, including high Latin-1 characters at capacity -/
theorem df88591_serde_roundtrip (N : Nat) (bytes : List Nat) (h : Inv88591 N bytes) :
    de88591 N (ser88591 bytes) = bytes := by
  obtain ⟨hl, hb⟩ := h
  unfold de88591 ser88591 df88591Chars
  rw [List.take_of_length_le (by simpa using hl), List.map_map]
  conv => rhs; rw [← List.map_id bytes]
  apply List.map_congr_left
  intro b hmem
  have := hb b hmem
  simp only [Function.comp, toChar, fromChar, id]
  split
  · omega
  · simp

/-- both constructors establish the invariant -/
theorem inv88591_of_from (N : Nat) (s : List Nat) : Inv88591 N (df88591From N s) := by
  refine ⟨by simp [df88591From]; omega, ?_⟩
  intro b hb
  simp only [df88591From, List.mem_map] at hb
  obtain ⟨c, _, rfl⟩ := hb
  unfold fromChar
  split <;> omega

theorem inv88591_of_push (N : Nat) (bytes : List Nat) (b : Nat) (h : Inv88591 N bytes) (hb : b < 256)
    (hlen : bytes.length < N) : Inv88591 N (bytes ++ [pushNorm b]) := by
  refine ⟨by simp; omega, ?_⟩
  intro x hx
  rcases List.mem_append.mp hx with hx | hx
  · exact h.2 x hx
  · simp only [List.mem_singleton] at hx
    subst hx
    unfold pushNorm
    split <;> omega

/-- a UTF-8 text field holding the characters `cs` (they fit its capacity) survives serialisation -/
theorem arraystring_serde_roundtrip (N : Nat) (cs : List Nat) (h : (cs.flatMap utf8Enc).length ≤ N) :
    deAstr N (serAstr cs) = cs.flatMap utf8Enc := by
  unfold deAstr serAstr
  obtain ⟨k, hk, he, hn⟩ := C17.arraystring_from_longest_prefix N cs
  rcases Nat.eq_or_lt_of_le hk with rfl | hlt
  · rw [he, List.take_length]
  · -- a proper prefix was kept because character `k` did not fit; but the whole string fits
    exfalso
    have h1 := hn hlt
    rw [List.getD_eq_getElem?_getD, List.getElem?_eq_getElem hlt, Option.getD_some] at h1
    rw [← List.take_append_drop k cs, List.drop_eq_getElem_cons hlt] at h
    simp only [List.flatMap_append, List.flatMap_cons, List.length_append, TextLaws.utf8Enc_length] at h
    omega

/-! Non-vacuity: 31 × U+00E9 in a 31-byte descriptor field (the input of defect D6) -/
example : Inv88591 31 (List.replicate 31 0xE9) := by
  refine ⟨by simp, ?_⟩
  intro b hb
  rw [List.mem_replicate] at hb
  omega
example : de88591 31 (ser88591 (List.replicate 31 0xE9)) = List.replicate 31 0xE9 := by decide

end Rtcm.C20
