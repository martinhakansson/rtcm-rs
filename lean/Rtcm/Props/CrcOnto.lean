import Rtcm.Proofs.CrcErr
import Rtcm.Proofs.MkFrame
/-!
# C03 / C04 completeness: every 24-bit value is the checksum of some frame of every payload length 3..=1023

For a fixed prefix the map "last three bytes ↦ CRC-24Q" is a bijection onto the 24-bit values:

    crc24q (pre ++ x) = Z (crc24q pre xor be24 x)            (`crc24q_append_three`)

where `Z s = crcRem s 0^24` runs the division over 24 zero input bits. `Z` is a permutation of the
24-bit states: the zero-input step `s ↦ 2s` or `2s xor G` is undone by `crcUnstep` (the generator is
odd, so bit 0 of the result tells which case applied). `crcUnrem 24` is the inverse of `Z`, and
`crcComplete pre c` is the explicit, computable completion.

Consequence for C03/C04: the checksum field of accepted frames takes all `2^24` values, at every
payload length `3..=1023` and for every value of the reserved bits (`every_checksum_occurs`); no
checksum value is "impossible", and a test corpus cannot rely on one being absent.
-/
namespace Rtcm

/-- undo one zero-input step: bit 0 set means the generator was subtracted -/
def crcUnstep (t : Nat) : Nat := if t.testBit 0 then (t ^^^ crcG) / 2 else t / 2

def crcUnrem : Nat → Nat → Nat
  | 0, t => t
  | n + 1, t => crcUnrem n (crcUnstep t)

theorem crcG_bit0 : crcG.testBit 0 = true := by decide

theorem xor_xor_cancel_right (a b : Nat) : (a ^^^ b) ^^^ b = a := by
  rw [Nat.xor_assoc, Nat.xor_self, Nat.xor_zero]

theorem two_mul_div_two_of_bit0 (x : Nat) (h : x.testBit 0 = false) : 2 * (x / 2) = x := by
  rw [Nat.testBit_zero] at h
  have : x % 2 ≠ 1 := of_decide_eq_false h
  omega

theorem crcUnstep_lt (t : Nat) (h : t < 2 ^ 24) : crcUnstep t < 2 ^ 24 := by
  unfold crcUnstep
  split
  · have : t ^^^ crcG < 2 ^ 25 :=
      Nat.xor_lt_two_pow (Nat.lt_of_lt_of_le h (by decide)) crcG_lt
    omega
  · omega

theorem crcStep_crcUnstep (t : Nat) (h : t < 2 ^ 24) : crcStep (crcUnstep t) false = t := by
  have ht24 : t.testBit 24 = false := Nat.testBit_lt_two_pow h
  rw [crcStep_false, crcUnstep]
  cases h0 : t.testBit 0 with
  | true =>
    have heven : (t ^^^ crcG).testBit 0 = false := by
      rw [Nat.testBit_xor, h0, crcG_bit0]; rfl
    have h24 : (t ^^^ crcG).testBit 24 = true := by
      rw [Nat.testBit_xor, ht24, crcG_bit24]; rfl
    rw [if_pos rfl, two_mul_div_two_of_bit0 _ heven, if_pos h24, xor_xor_cancel_right]
  | false =>
    rw [if_neg Bool.false_ne_true, two_mul_div_two_of_bit0 _ h0, ht24]
    rfl

theorem crcUnstep_crcStep (s : Nat) : crcUnstep (crcStep s false) = s := by
  have hb0 : (2 * s).testBit 0 = false := shl_bit_testBit_zero s false
  rw [crcStep_false]
  split
  · have : ((2 * s) ^^^ crcG).testBit 0 = true := by
      rw [Nat.testBit_xor, hb0, crcG_bit0]; rfl
    rw [crcUnstep, if_pos this, xor_xor_cancel_right]
    omega
  · rw [crcUnstep, hb0, if_neg Bool.false_ne_true]
    omega

theorem crcUnrem_lt (n t : Nat) (h : t < 2 ^ 24) : crcUnrem n t < 2 ^ 24 := by
  induction n generalizing t with
  | zero => exact h
  | succ n ih => exact ih _ (crcUnstep_lt t h)

theorem crcRem_crcUnrem (n t : Nat) (h : t < 2 ^ 24) :
    crcRem (crcUnrem n t) (List.replicate n false) = t := by
  induction n generalizing t with
  | zero => rfl
  | succ n ih =>
    rw [crcRem_replicate_succ']
    show crcStep (crcRem (crcUnrem n (crcUnstep t)) (List.replicate n false)) false = t
    rw [ih _ (crcUnstep_lt t h), crcStep_crcUnstep t h]

theorem crcUnrem_crcRem (n s : Nat) : crcUnrem n (crcRem s (List.replicate n false)) = s := by
  induction n generalizing s with
  | zero => rfl
  | succ n ih =>
    rw [crcRem_replicate_succ']
    show crcUnrem n (crcUnstep (crcStep (crcRem s (List.replicate n false)) false)) = s
    rw [crcUnstep_crcStep, ih]

theorem be24_lt_of_three (x : List UInt8) (h : x.length = 3) : be24 x 0 < 2 ^ 24 := by
  have := natOfBits_lt (bitsOfBytes x)
  rwa [natOfBits_three x h, length_bitsOfBytes, h] at this

theorem be24_inj (x y : List UInt8) (hx : x.length = 3) (hy : y.length = 3)
    (h : be24 x 0 = be24 y 0) : x = y := by
  rw [← natOfBits_three x hx, ← natOfBits_three y hy] at h
  have := congrArg bytesOfBits
    (natOfBits_inj (by rw [length_bitsOfBytes, length_bitsOfBytes, hx, hy]) h)
  rwa [bytesOfBits_bitsOfBytes, bytesOfBits_bitsOfBytes] at this

theorem crcBytes_be24 (x : List UInt8) (h : x.length = 3) : crcBytes (be24 x 0) = x :=
  be24_inj _ x rfl h (be24_crcBytes_zero _ (be24_lt_of_three x h))

theorem length_crcBytes (v : Nat) : (crcBytes v).length = 3 := rfl

theorem crc24q_append_three (pre x : List UInt8) (hx : x.length = 3) :
    crc24q (pre ++ x) = crcRem (crc24q pre ^^^ be24 x 0) (List.replicate 24 false) := by
  show crcRem (crcRemBytes 0 (pre ++ x)) (List.replicate 24 false) = _
  rw [crcRemBytes_eq_bits, crcRem_body_crc pre x hx]

/-- the three bytes that bring the checksum of `pre ++ _` to `c` -/
def crcComplete (pre : List UInt8) (c : Nat) : List UInt8 :=
  crcBytes (crcUnrem 24 c ^^^ crc24q pre)

theorem length_crcComplete (pre : List UInt8) (c : Nat) : (crcComplete pre c).length = 3 := rfl

theorem crc24q_crcComplete (pre : List UInt8) (c : Nat) (hc : c < 2 ^ 24) :
    crc24q (pre ++ crcComplete pre c) = c := by
  have hv : crcUnrem 24 c ^^^ crc24q pre < 2 ^ 24 :=
    Nat.xor_lt_two_pow (crcUnrem_lt 24 c hc) (crc24q_lt pre)
  rw [crc24q_append_three pre _ (length_crcComplete pre c), crcComplete, be24_crcBytes_zero _ hv,
    Nat.xor_comm (crcUnrem 24 c), ← Nat.xor_assoc, Nat.xor_self, Nat.zero_xor]
  exact crcRem_crcUnrem 24 c hc

theorem crcComplete_unique (pre : List UInt8) (c : Nat) (y : List UInt8) (hy : y.length = 3)
    (h : crc24q (pre ++ y) = c) : y = crcComplete pre c := by
  rw [crc24q_append_three pre y hy] at h
  have h2 : crc24q pre ^^^ be24 y 0 = crcUnrem 24 c := by
    rw [← h, crcUnrem_crcRem]
  have h3 : be24 y 0 = crcUnrem 24 c ^^^ crc24q pre := by
    rw [← h2, Nat.xor_comm (crc24q pre), xor_xor_cancel_right]
  rw [crcComplete, ← h3, crcBytes_be24 y hy]

end Rtcm

namespace Rtcm.C03

/-- For every prefix, "last three bytes ↦ checksum" is a bijection onto the 24-bit values: every
`c < 2^24` is the CRC-24Q of `pre ++ x` for exactly one three-byte `x`. -/
theorem crc_last3_bijective (pre : List UInt8) (c : Nat) (hc : c < 2 ^ 24) :
    ∃ x : List UInt8, x.length = 3 ∧ crc24q (pre ++ x) = c ∧
      ∀ y : List UInt8, y.length = 3 → crc24q (pre ++ y) = c → y = x :=
  ⟨crcComplete pre c, length_crcComplete pre c, crc24q_crcComplete pre c hc,
    fun y hy h => crcComplete_unique pre c y hy h⟩

/-- Every 24-bit value occurs as the checksum of an accepted frame whose payload starts with any
chosen bytes `p` (e.g. a message number): three more payload bytes complete it, for every payload
length `p.length + 3 ≤ 1023` and every value of the reserved bits. -/
theorem every_checksum_occurs_with_prefix (p : List UInt8) (hL : p.length + 3 ≤ 1023) (resv c : Nat)
    (hc : c < 2 ^ 24) :
    ∃ x : List UInt8, x.length = 3 ∧
      ∃ f, frameNew (mkFrame resv (p ++ x)) = .ok f ∧ f.crc = c ∧ f.data = p ++ x := by
  let x := crcComplete (frameHeader resv (p.length + 3) ++ p) c
  have hlen : (p ++ x).length = p.length + 3 := List.length_append
  refine ⟨x, rfl, mkFrameResult resv (p ++ x), ?_, ?_, rfl⟩
  · exact frameNew_mkFrame_nil resv _ (by omega)
  · show crc24q (frameHeader resv (p ++ x).length ++ (p ++ x)) = c
    rw [hlen, ← List.append_assoc]
    exact crc24q_crcComplete _ c hc

/-- Every 24-bit value occurs as the checksum of an accepted frame, at every payload length
`3 ..= 1023` and for every value of the reserved bits (the case of an all-zero `p`). -/
theorem every_checksum_occurs (L : Nat) (h3 : 3 ≤ L) (hL : L ≤ 1023) (resv c : Nat) (hc : c < 2 ^ 24) :
    ∃ payload : List UInt8, payload.length = L ∧
      ∃ f, frameNew (mkFrame resv payload) = .ok f ∧ f.crc = c := by
  have hp : (List.replicate (L - 3) (0 : UInt8)).length + 3 = L := by
    rw [List.length_replicate]; omega
  obtain ⟨x, hx, f, hf, hcrc, _⟩ :=
    every_checksum_occurs_with_prefix (List.replicate (L - 3) 0) (by omega) resv c hc
  exact ⟨_, by rw [List.length_append, hx, hp], f, hf, hcrc⟩

/-! Non-vacuity: completions of the prefix `d3 00 05 3e d0` (header for L = 5, number 1005) to the
checksums 0 and 0xFFFFFF, and the accepted frame for checksum 0. -/
example : crcComplete [0xd3, 0x00, 0x05, 0x3e, 0xd0] 0 = [0x21, 0x44, 0xd3] ∧
    crc24q ([0xd3, 0x00, 0x05, 0x3e, 0xd0] ++ [0x21, 0x44, 0xd3]) = 0 := by decide +kernel
example : crcComplete [0xd3, 0x00, 0x05, 0x3e, 0xd0] 0xFFFFFF = [0x63, 0x1a, 0xeb] ∧
    crc24q ([0xd3, 0x00, 0x05, 0x3e, 0xd0] ++ [0x63, 0x1a, 0xeb]) = 0xFFFFFF := by decide +kernel
example : (match frameNew (mkFrame 0 ([0x3e, 0xd0] ++ crcComplete [0xd3, 0x00, 0x05, 0x3e, 0xd0] 0)) with
    | .ok f => (f.crc, f.number, f.dataLen) | _ => (1, none, 0)) = (0, some 1005, 5) := by decide +kernel

end Rtcm.C03
