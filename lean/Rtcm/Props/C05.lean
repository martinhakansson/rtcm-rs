import Rtcm.Proofs.Scan
/-!
# C05  The stream scanner finds the first deliverable frame and skips only dead bytes

Model: `Rtcm.scan` (`next_msg_frame`), `Rtcm.IterState` (`MsgFrameIter`).
`DeadAt d j`: position `j` is not a 0xD3 byte, or the candidate there is complete and rejected.
-/
namespace Rtcm.C05

/-- A frame is delivered exactly when position `i` is the earliest 0xD3 whose candidate is not
dead, that candidate is accepted, and then consumed = end of that frame. -/
theorem delivers_iff (d : List UInt8) (c : Nat) (f : Frame) :
    scan d = (c, some f) ↔
      ∃ i, i < d.length ∧ d.getD i 0 = 0xd3 ∧ frameNew (d.drop i) = .ok f ∧ c = i + f.frameLen ∧
        ∀ j, j < i → DeadAt d j :=
  ⟨scan_some d c f, fun ⟨i, _, _, hok, hc, hd⟩ => hc ▸ scan_of_ok d i f hd hok⟩

/-- When no frame is delivered, every consumed position is dead (no 0xD3 there, or a candidate that is
complete and rejected), and either the whole buffer is consumed or the scan stopped before a 0xD3
candidate that is still incomplete; the converse is `scan_skip` with `scan_incomplete`. -/
theorem delivers_nothing (d : List UInt8) (c : Nat) (h : scan d = (c, none)) :
    c ≤ d.length ∧ (∀ j, j < c → DeadAt d j) ∧
      (c = d.length ∨ (d.getD c 0 = 0xd3 ∧ frameNew (d.drop c) = .error .incomplete)) :=
  scan_none d c h

theorem consumed_le_length (d : List UInt8) : (scan d).1 ≤ d.length := scan_consumed_le d

/-- the delivered frame's bytes are the buffer bytes ending at the consumed mark -/
theorem delivered_bytes_end_at_consumed (d : List UInt8) (c : Nat) (f : Frame)
    (h : scan d = (c, some f)) :
    f.frameLen ≤ c ∧ c ≤ d.length ∧ f.frameData = (d.drop (c - f.frameLen)).take f.frameLen := by
  obtain ⟨i, hi, _, hok, hc, _⟩ := scan_some d c f h
  have hl := frameNew_ok_frameLen _ _ hok
  have hp := scan_some_pos d c f h
  refine ⟨by omega, hp.2, ?_⟩
  have : c - f.frameLen = i := by omega
  rw [this]; exact hl.2.2.2

/-- Every byte consumed without being part of the delivered frame cannot begin a valid frame,
whatever data follows. -/
theorem dead_bytes_stay_dead (d : List UInt8) (c : Nat) (r : Option Frame) (h : scan d = (c, r))
    (j : Nat) (hj : j < c - (match r with | some f => f.frameLen | none => 0))
    (ext : List UInt8) (g : Frame) : frameNew ((d ++ ext).drop j) ≠ .ok g := by
  cases r with
  | none =>
    obtain ⟨hle, hdead, _⟩ := scan_none d c h
    exact ((hdead j (by simpa using hj)).append (by simp at hj; omega) ext).not_ok g
  | some f =>
    obtain ⟨i, hi, _, hok, hc, hdead⟩ := scan_some d c f h
    simp only at hj
    exact ((hdead j (by omega)).append (by omega) ext).not_ok g

/-- A delivered frame is delivered again, with the same consumed count, when more data follows. -/
theorem delivery_stable (d e : List UInt8) (c : Nat) (f : Frame) (h : scan d = (c, some f)) :
    scan (d ++ e) = (c, some f) := scan_append_some d e c f h

/-- The iterator yields exactly the frames, in order, of repeated scanner calls (dropping what each
call consumed) and reports their consumed total. -/
theorem iter_eq_repeated_scan (d : List UInt8) :
    (iterFrames d).1 = (drainAll d).1 ∧
      (iterFrames d).2 = d.length - (drainAll d).2.length ∧ (iterFrames d).2 ≤ d.length := by
  obtain ⟨h1, h3, h4⟩ := collect_eq_drain (d.length + 1) d 0 (Nat.zero_le _)
  have hl : d.length - (iterFrames d).2 = (drainAll d).2.length := by
    rw [← List.length_drop]; exact congrArg List.length h4
  have : (iterFrames d).2 ≤ d.length := h3
  exact ⟨h1, by omega, h3⟩

theorem each_frame_consumes (d : List UInt8) (c : Nat) (f : Frame) (h : scan d = (c, some f)) :
    6 ≤ c ∧ c ≤ d.length := scan_some_pos d c f h

/-- The drain loop terminates: the model is a structurally recursive function whose fuel
`|d| + 1` is never exhausted, because each delivered frame consumes at least 6 bytes
(`each_frame_consumes`). -/
theorem fuel_suffices (fuel : Nat) (d : List UInt8) (h : d.length < fuel) :
    drain fuel d = drainAll d := drain_fuel fuel d h

/-- a stray 0xD3 announcing a long body blocks delivery until enough bytes arrive -/
example : scan ([1, 0xd3, 2] ++ mkFrame 0 [0x3e, 0xd0]) = (1, none) := by decide +kernel

/-! Non-vacuity: garbage, a stray 0xD3, a corrupted frame, a valid frame, then a truncated one. -/
example :
    let v := mkFrame 0 [0x3e, 0xd0]
    let bad := (mkFrame 0 [0x3e, 0xd1]).dropLast ++ [0]
    (scan ([1, 0xd3, 0, 0, 9, 9, 9] ++ bad ++ v ++ v.take 5)).1 = 7 + 8 + 8 := by decide +kernel
example : scan ([7, 7] ++ (mkFrame 0 [0x3e, 0xd0]).take 5) = (2, none) := by decide +kernel
example : (iterFrames (mkFrame 0 [1, 2] ++ [9] ++ mkFrame 0 [])).2 = 15 := by decide +kernel

end Rtcm.C05
