import Rtcm.Proofs.Bias1230Laws
import Rtcm.Proofs.BiasRead
/-!
# C16  SSR code-bias and GLONASS bias lists keep every entry or report an error

"Encoding a code-bias message (1059, 1065) or a GLONASS code-phase bias message (1230) whose
entries all carry recognised, distinct signals either fails with an error or yields a frame that
decodes to exactly the same multiset of (satellite, signal, bias on its grid) entries, grouped by
ascending satellite; no entry is silently dropped, duplicated or lost to a count field that
wrapped. Decoding any such frame never yields more entries than the list capacity."

Subject: `Rtcm.Bias.encode` / `decode` (1059, 1065), `encode1230` / `decode1230` (Model/Bias.lean).
(a) no count field wraps silently, (b) a successfully encoded 1059/1065 list decodes to the same
multiset, (c) the same for 1230.

`Ext` is `CurLaws.Ext`, not the `NoPanic.Ext` of the interpreter invariants.
`norm14 e`: `e` with `bias` replaced by what the wire carries: the bias quantised to 0.01 m as
an `i16` (`quantBias`), CUT TO THE 14-BIT FIELD (low 14 bits, sign-extended: `wire14`), times
0.01 (`dequantBias`).  `normalise e`: the same without the cut.  They coincide when the
quantised integer is in `-8192 ..= 8191` (`Fits14`, i.e. |bias| ≤ 81.91 m);
see `bias_14bit_wraps` for a concrete entry outside that range.
-/
namespace Rtcm.C16
open Rtcm.Bias

/-- Decoding any 1059/1065 frame never yields more entries than the list capacity. -/
theorem bias_decode_le_cap (cfg : Cfg) (p : Params) (c : Cur) (es : List Entry) (c' : Cur)
    (h : decode cfg p c = .ok (es, c')) : es.length ≤ p.cap :=
  ((NoPanic.decode_sat cfg p c).of_ok h).1

open Rtcm.CurLaws Rtcm.BiasLaws Rtcm.Bits

theorem tblOk_1059 : TblOk Gen.biasTable_df_msg1059_biases :=
  ⟨by decide, by decide⟩

theorem tblOk_1065 : TblOk Gen.biasTable_df_msg1065_biases :=
  ⟨by decide, by decide⟩

/-- the parameter sets of the crate satisfy the standing hypotheses -/
theorem params_ok_1059 (cap : Nat) :
    ParamsOk (Interp.params1059 cap Gen.biasTable_df_msg1059_biases) :=
  ⟨(by decide : 1 ≤ 6), (by decide : 6 ≤ 8), (by decide : 63 < 2 ^ 6), Or.inl rfl, tblOk_1059⟩

theorem params_ok_1065 (cap : Nat) :
    ParamsOk (Interp.params1065 cap Gen.biasTable_df_msg1065_biases) :=
  ⟨(by decide : 1 ≤ 5), (by decide : 5 ≤ 8), (by decide : 31 < 2 ^ 5), Or.inr (by decide : 31 < 63),
    tblOk_1065⟩

/-- (a) No count field wraps silently: if encoding succeeds then every satellite identifier is
within range, the number of distinct satellites fits the 6-bit field (≤ 63) and every satellite
has at most 31 recognised entries (fits the 5-bit field).  Only the parameters are
constrained (`hsn`), not the signals or the buffer. -/
theorem bias_no_silent_loss (cfg : Cfg) (p : Params) (hsn : p.checkSatNum = true ∨ p.maxSat < 63)
    (v : List Entry) (c c' : Cur) (h : encode cfg p v c = .ok c') :
    (∀ e ∈ v, e.sat ≤ p.maxSat) ∧ (satsOf p v).length ≤ 63 ∧
    ∀ s, ((v.filter fun e => e.sat == s).filter (recognised p)).length ≤ 31 := by
  rw [encode_putAll] at h
  -- a layout that came through met none of its three refusals
  have hnf := (fail_mem_items p v .outOfRange).not.mp (Layout.putAll_ok_noFail cfg _ c c' h _)
  have hcs : checkSats p v = true := by
    cases hc : checkSats p v with
    | true => rfl
    | false => exact absurd ⟨rfl, Or.inl hc⟩ hnf
  have hn : p.checkSatNum = true → (satsOf p v).length ≤ 63 := fun hc =>
    Nat.le_of_not_lt fun hl => hnf ⟨rfl, Or.inr (Or.inl ⟨hc, hl⟩)⟩
  have hcnt : ∀ s ∈ satsOf p v, ((v.filter fun e => e.sat == s).filter (recognised p)).length ≤ 31 :=
    fun s hs => Nat.le_of_not_lt fun hl => hnf ⟨rfl, Or.inr (Or.inr ⟨s, hs, hl⟩)⟩
  have hsat := (checkSats_iff p v).mp hcs
  refine ⟨hsat, ?_, fun s => ?_⟩
  · have hl := satsOf_length_le p v
    rcases hsn with hc | hm
    · exact hn hc
    · omega
  · by_cases hs : s ∈ satsOf p v
    · exact hcnt s hs
    · have : (v.filter fun e => e.sat == s) = [] := by
        rw [List.filter_eq_nil_iff]
        intro e he hes
        simp only [beq_iff_eq] at hes
        exact hs ((mem_satsOf p v s).mpr ⟨hes ▸ hsat e he, e, he, hes⟩)
      simp [this]

/-- encoding never panics (either build profile): it succeeds or reports OutOfRange or
BufferOverflow -/
theorem bias_encode_total (cfg : Cfg) (p : Params) (hp : ParamsOk p) (v : List Entry) (c : Cur)
    (hg : Good c) :
    (∃ c', encode cfg p v c = .ok c') ∨ encode cfg p v c = .err .outOfRange ∨
      encode cfg p v c = .err .bufferOverflow := by
  rw [encode_putAll]
  rcases Layout.putAll_total hg (items_ok p hp v) with h | ⟨e, he, h⟩ | h
  · exact Or.inl h
  · exact Or.inr (Or.inl (((fail_mem_items p v e).mp he).1 ▸ h))
  · exact Or.inr (Or.inr h)

/-- (a), converse: a count that does not fit its field is an error, never a wrapped count -/
theorem bias_count_overflow_is_error (cfg : Cfg) (p : Params) (hp : ParamsOk p) (v : List Entry)
    (c : Cur) (hg : Good c)
    (hbad : 63 < (satsOf p v).length ∨
      ∃ s, 31 < ((v.filter fun e => e.sat == s).filter (recognised p)).length) :
    encode cfg p v c = .err .outOfRange ∨ encode cfg p v c = .err .bufferOverflow := by
  rcases bias_encode_total cfg p hp v c hg with ⟨c', h⟩ | h
  · obtain ⟨_, h1, h2⟩ := bias_no_silent_loss cfg p hp.satNum v c c' h
    rcases hbad with hb | ⟨s, hb⟩
    · omega
    · have := h2 s
      omega
  · exact h

/-- more than 63 distinct satellites (1059) or an out-of-range satellite: OutOfRange whatever the
buffer -/
theorem bias_sat_overflow_out_of_range (cfg : Cfg) (p : Params) (v : List Entry) (c : Cur)
    (hbad : (∃ e ∈ v, p.maxSat < e.sat) ∨ (p.checkSatNum = true ∧ 63 < (satsOf p v).length)) :
    encode cfg p v c = .err .outOfRange := by
  rw [encode_eq]
  split
  · rfl
  · next hcs =>
    simp only [Bool.not_eq_true', Bool.not_eq_false] at hcs
    have hsat := (checkSats_iff p v).mp hcs
    rcases hbad with ⟨e, he, hlt⟩ | ⟨hc, hl⟩
    · have := hsat e he
      omega
    · simp [hc, hl]

/-- (a), converse, sharp: with room in the buffer for the whole list (6 count bits, `satBits + 5`
bits per satellite, 19 bits per entry) a per-satellite count above 31 is reported as OutOfRange -/
theorem bias_count_overflow_out_of_range (cfg : Cfg) (p : Params) (hp : ParamsOk p)
    (v : List Entry) (c : Cur) (hg : Good c)
    (hroom : c.off + 6 + (p.satBits + 5) * (satsOf p v).length + 19 * v.length
      ≤ 8 * c.data.length)
    (hbad : ∃ s, 31 < ((v.filter fun e => e.sat == s).filter (recognised p)).length) :
    encode cfg p v c = .err .outOfRange := by
  rw [encode_putAll]
  obtain ⟨s, hs⟩ := hbad
  -- the layout has a refusal: the satellite check, or the count of satellite `s`
  have hfail : Layout.Item.fail .outOfRange ∈ items p v := by
    rw [fail_mem_items]
    by_cases hcs : checkSats p v = true
    · -- `s` has an entry, so it is one of the satellites the encoder walks through
      obtain ⟨x, hx⟩ := List.exists_mem_of_length_pos (Nat.lt_of_le_of_lt (Nat.zero_le _)
        (Nat.lt_of_lt_of_le hs (List.length_filter_le _ _)))
      obtain ⟨hxv, hxs⟩ := List.mem_filter.mp hx
      rw [beq_iff_eq] at hxs
      have hmem : s ∈ satsOf p v :=
        (mem_satsOf p v s).mpr ⟨hxs ▸ (checkSats_iff p v).mp hcs x hxv, x, hxv, hxs⟩
      exact ⟨rfl, Or.inr (Or.inr ⟨s, hmem, hs⟩)⟩
    · exact ⟨rfl, Or.inl (by simpa using hcs)⟩
  -- with room for the whole layout the writer gets as far as a refusal
  have hb := bits_items_le p v
  obtain ⟨e, he, h⟩ := Layout.putAll_room hg (items_ok p hp v) (by omega) ⟨_, hfail⟩
  exact ((fail_mem_items p v e).mp he).1 ▸ h

theorem grouped_perm (p : Params) (f : Entry → Entry) (v : List Entry)
    (hc : ∀ e ∈ v, e.sat ≤ p.maxSat) : (grouped p f v).Perm (v.map f) := by
  unfold grouped
  rw [← List.map_flatMap]
  exact (group_perm p v ((checkSats_iff p v).mpr hc)).map f

theorem sat_of_mem_group {f : Entry → Entry} (hf : ∀ e, (f e).sat = e.sat) {v : List Entry} {s : Nat}
    {x : Entry} (hx : x ∈ (v.filter fun e => e.sat == s).map f) : x.sat = s := by
  obtain ⟨a, ha, rfl⟩ := List.mem_map.mp hx
  rw [hf]
  simpa using (List.mem_filter.mp ha).2

theorem grouped_sorted (p : Params) (f : Entry → Entry) (hf : ∀ e, (f e).sat = e.sat)
    (v : List Entry) : ((grouped p f v).map (·.sat)).Pairwise (· ≤ ·) := by
  unfold grouped
  rw [List.pairwise_map, List.pairwise_flatMap]
  constructor
  · -- inside a group every satellite is `s`
    intro s _
    refine List.pairwise_of_forall_mem_list fun a ha b hb => ?_
    rw [sat_of_mem_group hf ha, sat_of_mem_group hf hb]
  · have : (satsOf p v).Pairwise (· < ·) :=
      List.Pairwise.sublist List.filter_sublist List.pairwise_lt_range
    exact this.imp fun hst x hx y hy => by
      rw [sat_of_mem_group hf hx, sat_of_mem_group hf hy]; exact Nat.le_of_lt hst

/-- (b) A successfully encoded 1059/1065 list decodes — from the frame the encoder produced, read
at the offset where it started — to the same entries as they sit on the wire (`norm14`), grouped
by ascending satellite, each group in the original relative order; the decoder stops exactly
where the encoder stopped.  The result is a permutation of `v.map norm14`: nothing dropped,
nothing duplicated.  The encoder changed no bit outside `[c.off, c'.off)` (`Ext`).
Distinctness of the `(sat, band, attr)` keys and of the table's descriptors is NOT needed
(duplicates are written and read back twice). -/
theorem bias_encode_ok_decodes_same_multiset (cfg : Cfg) (p : Params) (hp : ParamsOk p)
    (v : List Entry) (hrec : ∀ e ∈ v, recognised p e = true) (hcap : v.length ≤ p.cap)
    (c c' : Cur) (hg : Good c) (h : encode cfg p v c = .ok c') :
    decode cfg p { c' with off := c.off } = .ok (grouped p norm14 v, c') ∧
    (grouped p norm14 v).Perm (v.map norm14) ∧
    ((grouped p norm14 v).map (·.sat)).Pairwise (· ≤ ·) ∧
    Ext c c' := by
  obtain ⟨hext, hdec⟩ := encode_decode cfg p hp v hcap c c' hg h
  obtain ⟨hsat, _, _⟩ := bias_no_silent_loss cfg p hp.satNum v c c' h
  rw [List.filter_eq_self.mpr hrec] at hdec
  exact ⟨hdec.self, grouped_perm p norm14 v hsat,
    grouped_sorted p norm14 (fun _ => rfl) v, hext⟩

/-- (b), stable under later writes: the list is read back from ANY buffer of the same length that
agrees with the produced one on the bits `[c.off, c'.off)` the encoder wrote — so fields written
after the list (which leave these bits alone, `Ext`) do not disturb it. -/
theorem bias_encode_ok_decodes_stable (cfg : Cfg) (p : Params) (hp : ParamsOk p)
    (v : List Entry) (hrec : ∀ e ∈ v, recognised p e = true) (hcap : v.length ≤ p.cap)
    (c c' : Cur) (hg : Good c) (h : encode cfg p v c = .ok c')
    (D : List Nat) (hD : D.length = c'.data.length) (ha : AgreeOn D c'.data c.off c'.off) :
    decode cfg p ⟨D, c.off⟩ = .ok (grouped p norm14 v, ⟨D, c'.off⟩) :=
  List.filter_eq_self.mpr hrec ▸ (encode_decode cfg p hp v hcap c c' hg h).2 D hD ha

theorem grouped_congr (p : Params) (f g : Entry → Entry) (v : List Entry)
    (h : ∀ e ∈ v, f e = g e) : grouped p f v = grouped p g v := by
  unfold grouped
  congr 1
  funext s
  apply List.map_congr_left
  intro e he
  exact h e (List.mem_filter.mp he).1

/-- (b) with every bias inside the 14-bit range (|bias| ≤ 81.91 m): the decoded bias is the
bias on the 0.01 m grid, `dequantBias res001 (toInt 16 (quantBias res001 bias))`. -/
theorem bias_encode_ok_decodes_same_multiset_on_grid (cfg : Cfg) (p : Params) (hp : ParamsOk p)
    (v : List Entry) (hrec : ∀ e ∈ v, recognised p e = true) (hcap : v.length ≤ p.cap)
    (hfit : ∀ e ∈ v, Fits14 e)
    (c c' : Cur) (hg : Good c) (h : encode cfg p v c = .ok c') :
    decode cfg p { c' with off := c.off } = .ok (grouped p normalise v, c') ∧
    (grouped p normalise v).Perm (v.map normalise) ∧
    ((grouped p normalise v).map (·.sat)).Pairwise (· ≤ ·) := by
  obtain ⟨h1, h2, h3, _⟩ := bias_encode_ok_decodes_same_multiset cfg p hp v hrec hcap c c' hg h
  have e : grouped p norm14 v = grouped p normalise v :=
    grouped_congr p _ _ v (fun e he => norm14_of_fits e (hfit e he))
  have e2 : v.map norm14 = v.map normalise :=
    List.map_congr_left (fun e he => norm14_of_fits e (hfit e he))
  rw [e] at h1 h2 h3
  rw [e2] at h2
  exact ⟨h1, h2, h3⟩

open Rtcm.Bias1230Laws

/-- the GLONASS MSM table of the crate orders 1C < 1P < 2C < 2P (ids 2, 3, 8, 9) -/
theorem glo1230_ok : Glo1230Ok Gen.sigTable_glo :=
  ⟨2, 3, 8, 9, by decide, by decide, by decide, by decide, by decide, by decide, by decide⟩

/-- (c) A successfully encoded 1230 list whose signals are recognised (one of 1C, 1P, 2C, 2P) and
pairwise distinct decodes to the same entries on the 0.02 m grid (`norm1230`: satellite field 0,
`bias = dequantBias res002 (toInt 16 (quantBias res002 bias))`; the field is a full 16 bits, no
cut), in mask order: the decoded signals form a sublist of `[1C, 1P, 2C, 2P]`.  The result is a
permutation of `v.map norm1230`; the decoder stops exactly where the encoder stopped; no bit
outside `[c.off, c'.off)` changed. -/
theorem bias_1230_encode_ok_decodes_same_multiset (cfg : Cfg) (t : Schema.SigTable)
    (hg : Glo1230Ok t) (v : List Entry)
    (hrec : ∀ e ∈ v, (e.band, e.attr) ∈ [(1, 67), (1, 80), (2, 67), (2, 80)])
    (hnd : (v.map fun e => (e.band, e.attr)).Nodup)
    (c c' : Cur) (hgood : Good c) (h : encode1230 cfg t v c = .ok c') :
    ∃ out, decode1230 cfg { c' with off := c.off } = .ok (out, c') ∧
      out.Perm (v.map norm1230) ∧
      (out.map fun e => (e.band, e.attr)).Sublist [(1, 67), (1, 80), (2, 67), (2, 80)] ∧
      c'.off = c.off + 4 + 16 * v.length ∧ Ext c c' := by
  obtain ⟨hext, hoff, hdec⟩ := encode1230_decode cfg t hg v hnd c c' hgood h
  refine ⟨_, hdec.self, (Sig.sortBy_perm (le1230 t) v).map norm1230, ?_,
    hoff, hext⟩
  have := sorted_sublist t hg v hrec hnd
  rw [List.map_map]
  exact this

/-- (c), explicit order and stability: the decoded list is, for each mask position 1C, 1P, 2C, 2P
in this order, the entry of `v` carrying that signal (if any), normalised; and it is read back
from ANY buffer of the same length agreeing with the produced one on `[c.off, c'.off)`. -/
theorem bias_1230_decodes_in_mask_order (cfg : Cfg) (t : Schema.SigTable)
    (hg : Glo1230Ok t) (v : List Entry)
    (hrec : ∀ e ∈ v, (e.band, e.attr) ∈ [(1, 67), (1, 80), (2, 67), (2, 80)])
    (hnd : (v.map fun e => (e.band, e.attr)).Nodup)
    (c c' : Cur) (hgood : Good c) (h : encode1230 cfg t v c = .ok c')
    (D : List Nat) (hD : D.length = c'.data.length) (ha : AgreeOn D c'.data c.off c'.off) :
    decode1230 cfg ⟨D, c.off⟩ =
      .ok (([(1, 67), (1, 80), (2, 67), (2, 80)].filterMap fun k =>
              v.find? fun e => (e.band, e.attr) == k).map norm1230, ⟨D, c'.off⟩) := by
  obtain ⟨_, _, hdec⟩ := encode1230_decode cfg t hg v hnd c c' hgood h
  rw [hdec D hD ha, sorted_eq_slots t hg v hrec hnd]
  rfl

/-- the 1230 encoder never panics: it succeeds, or reports InvalidSignalId (an unrecognised
signal) or BufferOverflow -/
theorem bias_1230_encode_total (cfg : Cfg) (t : Schema.SigTable) (v : List Entry) (c : Cur)
    (hgood : Good c) :
    (∃ c', encode1230 cfg t v c = .ok c') ∨ encode1230 cfg t v c = .err .invalidSignalId ∨
      encode1230 cfg t v c = .err .bufferOverflow := by
  rw [encode1230_putAll]
  rcases Layout.putAll_total hgood (items1230_ok t v) with h | ⟨e, he, h⟩ | h
  · exact Or.inl h
  · exact Or.inr (Or.inl (((fail_mem_items1230 t v e).mp he).1 ▸ h))
  · exact Or.inr (Or.inr h)

/-- Decoding any 1230 frame never yields more entries than the list capacity (4). -/
theorem bias_1230_decode_le_cap (cfg : Cfg) (c : Cur) (es : List Entry) (c' : Cur)
    (h : decode1230 cfg c = .ok (es, c')) : es.length ≤ 4 := by
  have := ((NoPanic.decode1230_sat cfg c).of_ok h).1.length_le
  rw [List.length_map, List.length_map] at this
  exact this

/-! Instances: the hypotheses are satisfiable, in both build profiles. -/

section examples

/-- three entries, satellites 5 and 2 scattered, biases 1.5 m, -1.5 m, 100.0 m -/
def exV : List Entry :=
  [⟨5, 1, 67, 0x3FC00000⟩, ⟨2, 2, 87, 0xBFC00000⟩, ⟨5, 2, 67, 0x42C80000⟩]
def exP : Params := Interp.params1059 390 Gen.biasTable_df_msg1059_biases
def exC : Cur := ⟨List.replicate 12 0, 3⟩

example : Good exC := by unfold Good; decide
example : ∀ e ∈ exV, recognised exP e = true := by decide
example : exV.length ≤ exP.cap := by decide

example : ∀ chk : Bool, (match encode ⟨chk⟩ exP exV exC with
    | .ok c' => c'.data == [1, 4, 21, 254, 212, 40, 128, 4, 177, 103, 16, 0] && c'.off == 88
    | _ => false) = true := by decide +kernel

example (cfg : Cfg) (c' : Cur) (h : encode cfg exP exV exC = .ok c') :
    decode cfg exP { c' with off := 3 } = .ok (grouped exP norm14 exV, c') :=
  (bias_encode_ok_decodes_same_multiset cfg exP (params_ok_1059 390) exV (by decide)
    (by decide) exC c' (by unfold Good; decide) h).1

example : grouped exP norm14 exV =
    [⟨2, 2, 87, 0xBFC00000⟩, ⟨5, 1, 67, 0x3FC00000⟩, ⟨5, 2, 67, 0xC27F5C29⟩] := by decide +kernel

example : Fits14 ⟨5, 1, 67, 0x3FC00000⟩ := by unfold Fits14; decide +kernel

/-- FINDING (model and, by the differential validation, crate): the quantised bias is an `i16`
but the field is 14 bits wide and the encoder does not range-check, so a bias outside
±81.91 m wraps silently: 100.0 m (0x42C80000) is written as 10000 mod 2^14 and comes back as
-63.84 m (0xC27F5C29), while its grid value is 100.0 m. -/
theorem bias_14bit_wraps :
    norm14 ⟨5, 2, 67, 0x42C80000⟩ = ⟨5, 2, 67, 0xC27F5C29⟩ ∧
    normalise ⟨5, 2, 67, 0x42C80000⟩ = ⟨5, 2, 67, 0x42C80000⟩ ∧
    toInt 16 (quantBias res001 0x42C80000) = 10000 ∧
    toInt 16 (wire14 (quantBias res001 0x42C80000)) = -6384 := by decide +kernel

/-- 64 satellites (1059): OutOfRange, not a wrapped count of 0 -/
example (cfg : Cfg) (c : Cur) :
    encode cfg exP ((List.range 64).map fun s => ⟨s, 1, 67, 0⟩) c = .err .outOfRange :=
  bias_sat_overflow_out_of_range cfg exP _ c (Or.inr ⟨rfl, by decide⟩)

/-- 1230: two entries out of mask order -/
def exV1230 : List Entry := [⟨0, 2, 80, 0x3FC00000⟩, ⟨0, 1, 67, 0xBFC00000⟩]

example : ∀ chk : Bool, (match encode1230 ⟨chk⟩ Gen.sigTable_glo exV1230 ⟨List.replicate 5 0, 1⟩ with
    | .ok c' => c'.data == [79, 253, 168, 2, 88] && c'.off == 37
    | _ => false) = true := by decide +kernel

example (cfg : Cfg) (c' : Cur)
    (h : encode1230 cfg Gen.sigTable_glo exV1230 ⟨List.replicate 5 0, 1⟩ = .ok c') :
    ∃ out, decode1230 cfg { c' with off := 1 } = .ok (out, c') ∧
      out.Perm (exV1230.map norm1230) ∧
      (out.map fun e => (e.band, e.attr)).Sublist [(1, 67), (1, 80), (2, 67), (2, 80)] ∧
      c'.off = 1 + 4 + 16 * exV1230.length ∧ Ext ⟨List.replicate 5 0, 1⟩ c' :=
  bias_1230_encode_ok_decodes_same_multiset cfg _ glo1230_ok exV1230 (by decide)
    (by decide) ⟨List.replicate 5 0, 1⟩ c' (by unfold Good; decide) h

example : exV1230.map norm1230 = [⟨0, 2, 80, 0x3FC00000⟩, ⟨0, 1, 67, 0xBFC00000⟩] := by
  decide +kernel

end examples

end Rtcm.C16
