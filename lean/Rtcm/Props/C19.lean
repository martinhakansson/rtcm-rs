import Rtcm.Gen.Features
import Rtcm.Proofs.Features
/-!
# C19  Every message feature can be selected on its own, with or without std

Partial by nature: "the crate builds" is a judgement of rustc. What is logic is modelled — modules,
their `cfg` gates, their `use super::…` dependencies, the dispatch table under a feature set — and
proved on the generated tables; the real decision is made by actual `cargo check` / driver builds
(see the evidence of the check).
-/
namespace Rtcm.C19
open Rtcm.Features

/-- the message-type features: the leaves of what `all_msgs` enables (group features such as a
hypothetical `msm = [..]` are followed, not counted) -/
def msgFeatures : List String := Features.msgFeatures Gen.cargoFeatures

/-- what selecting exactly the feature `f` enables -/
def sel (f : String) : FeatureSet := enables Gen.cargoFeatures [f]

/-! The closure of `all_msgs` is evaluated once; every message feature lists no sub-feature
(`lookup_of_mem_msgFeatures`), so its own closure needs no evaluation. Lists of names are compared
as permutations: the order of rows and features is free. -/

/-- the message features are exactly the features of the `message!` rows -/
theorem allMsgs_closure : enablesComplete Gen.cargoFeatures ["all_msgs"] = true ∧
    msgFeatures.isPerm (Gen.dispatchRows.map (·.1)) = true := by
  have h : (Keyed.msgFeatures (ren Gen.cargoFeatures nameKey) (fuelFor Gen.cargoFeatures ["all_msgs"])
        (nameKey "all_msgs")).2 = true ∧
      (Keyed.msgFeatures (ren Gen.cargoFeatures nameKey) (fuelFor Gen.cargoFeatures ["all_msgs"])
        (nameKey "all_msgs")).1.isPerm ((Gen.dispatchRows.map (·.1)).map nameKey) = true := by
    decide +kernel
  simp only [msgFeatures_ren @nameKey_inj] at h
  exact ⟨h.1, List.isPerm_iff.2 (perm_of_map_ren @nameKey_inj (List.isPerm_iff.1 h.2))⟩

theorem msgFeatures_perm : msgFeatures.Perm (Gen.dispatchRows.map (·.1)) :=
  List.isPerm_iff.1 allMsgs_closure.2

/-- the `include_msg!` list names the same features -/
theorem includes_perm : (Gen.includeMsgs.map (·.2)).Perm (Gen.dispatchRows.map (·.1)) :=
  List.isPerm_iff.1 (by decide +kernel)

theorem rows_nodup : (Gen.dispatchRows.map (·.1)).Nodup :=
  List.Pairwise.of_map nameKey (fun _ _ h e => h (e ▸ rfl))
    (by decide +kernel : ((Gen.dispatchRows.map (·.1)).map nameKey).Nodup)

theorem sel_msgFeature {f : String} (h : f ∈ msgFeatures) : sel f = [f] :=
  enables_leaf (lookup_of_mem_msgFeatures h)

/-- the closure computations behind the statements below all ran to completion -/
theorem closures_complete :
    enablesComplete Gen.cargoFeatures ["all_msgs"] = true ∧
    msgFeatures.all (fun f => enablesComplete Gen.cargoFeatures [f]) = true :=
  ⟨allMsgs_closure.1, List.all_eq_true.2 fun _ h => enablesComplete_leaf (lookup_of_mem_msgFeatures h)⟩

/-- under every feature selection whatsoever, every module that an enabled module imports is enabled -/
theorem closed_every_selection (fs : FeatureSet) :
    closed Gen.moduleGates Gen.includeMsgs Gen.moduleUses fs = true :=
  have h : usesOk (ren Gen.moduleGates nameKey) (Gen.includeMsgs.map (Prod.map nameKey nameKey))
      (ren Gen.moduleUses nameKey) = true := by decide +kernel
  closed_of_usesOk ((usesOk_ren @nameKey_inj ..).symm.trans h) fs

/-- for every single message feature, every module that an enabled module imports is enabled -/
theorem single_feature_closed :
    msgFeatures.all (fun f => closed Gen.moduleGates Gen.includeMsgs Gen.moduleUses (sel f)) = true :=
  List.all_eq_true.2 fun _ _ => closed_every_selection _

/-- the empty selection compiles no module that imports a disabled one -/
theorem empty_closed : closed Gen.moduleGates Gen.includeMsgs Gen.moduleUses [] = true :=
  closed_every_selection _

theorem all_msgs_closed :
    closed Gen.moduleGates Gen.includeMsgs Gen.moduleUses (sel "all_msgs") = true :=
  closed_every_selection _

/-- gates mention only features that exist in Cargo.toml -/
theorem gates_mention_only_known_features :
    Gen.moduleGates.all (fun g => allFeaturesKnown Gen.cargoFeatures g.2) = true ∧
    allFeaturesKnown Gen.cargoFeatures (Gen.includeMsgs.map (·.2)) = true ∧
    allFeaturesKnown Gen.cargoFeatures (Gen.dispatchRows.map (·.1)) = true := by
  have known {f : String} (h : f ∈ Gen.dispatchRows.map (·.1)) :
      Gen.cargoFeatures.any (·.1 == f) = true :=
    known_of_lookup (lookup_of_mem_msgFeatures (msgFeatures_perm.mem_iff.2 h))
  have hg : (ren Gen.moduleGates nameKey).all (fun g => g.2.all fun n =>
      (ren Gen.cargoFeatures nameKey).any (·.1 == n)) = true := by decide +kernel
  exact ⟨(gatesKnown_ren @nameKey_inj ..).symm.trans hg,
    List.all_eq_true.2 fun _ h => known (includes_perm.mem_iff.1 h),
    List.all_eq_true.2 fun _ h => known h⟩

/-- with only the feature of a row selected the dispatch table supports exactly that row's number -/
theorem dispatch_single :
    Gen.dispatchRows.all (fun r => supported Gen.dispatchRows (sel r.1) == [r.2.2.2]) = true :=
  List.all_eq_true.2 fun r h => by
    have hm : r.1 ∈ msgFeatures := msgFeatures_perm.mem_iff.2 (List.mem_map.2 ⟨r, h, rfl⟩)
    rw [sel_msgFeature hm, supported_single rows_nodup h]
    exact beq_self_eq_true _

/-- every message feature is a dispatch row and vice versa (as sets, without repetition) -/
theorem features_are_rows :
    (msgFeatures.length == Gen.dispatchRows.length && msgFeatures.all (Gen.dispatchRows.map (·.1)).contains &&
      (Gen.dispatchRows.map (·.1)).all msgFeatures.contains) = true := by
  simp only [Bool.and_eq_true, beq_iff_eq, List.all_eq_true, List.contains_iff_mem]
  exact ⟨⟨msgFeatures_perm.length_eq.trans (List.length_map _), fun _ => msgFeatures_perm.mem_iff.1⟩,
    fun _ => msgFeatures_perm.mem_iff.2⟩

/-- selecting a single message feature enables neither `std` nor another message feature -/
theorem no_feature_implies_std :
    msgFeatures.all (fun f => !(sel f).contains "std" &&
      ((sel f).filter msgFeatures.contains == [f])) = true := by
  have std : "std" ∉ Gen.dispatchRows.map (·.1) := by decide +kernel
  refine List.all_eq_true.2 fun f h => ?_
  have : f ≠ "std" := fun e => std (msgFeatures_perm.mem_iff.1 (e ▸ h))
  simp [sel_msgFeature h, h, Ne.symm this]

-- (No theorem about `std::` paths: whether an unconditional use of std exists is decided by the real
-- `cargo check --no-default-features` builds of the check; a syntactic scan would raise alarms on harmless
-- code. `Gen.ungatedStdPaths` is the translator's count of such uses; no theorem mentions it.)

end Rtcm.C19
