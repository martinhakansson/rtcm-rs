import Rtcm.Proofs.WFTable
import Rtcm.Proofs.BuildShape
/-!
# C09  Encoding is total and every emitted frame is well formed

Two halves.  Totality: on a well-formed layout and a byte buffer the body encoder ends in `ok`, `err` or
a `tokens…` rejection of the model, never in a modelled Rust panic, and so does `build_message` from every
reachable builder state.  Well-formedness: the specification's frame check accepts what `build_message`
returns as itself.
-/
namespace Rtcm.C09
open Rtcm.Message Rtcm.Schema

/-- Messages without a wire form are refused with EncodingNotSupported, from any builder state. -/
theorem no_wire_form_refused (cfg : Cfg) (tbl : List MsgRow) (glo : SigTable) (b : Builder) :
    (b.build cfg tbl glo .empty).2 = .err .encodingNotSupported ∧
    (b.build cfg tbl glo .corrupt).2 = .err .encodingNotSupported ∧
    ∀ n, (b.build cfg tbl glo (.notSupported n)).2 = .err .encodingNotSupported :=
  ⟨rfl, rfl, fun _ => rfl⟩

/-- a typed message whose number is not compiled in is refused as well -/
theorem unknown_number_refused (cfg : Cfg) (tbl : List MsgRow) (glo : SigTable) (b : Builder) (n : Nat)
    (toks : List Tok) (h : findRow tbl n = none) :
    (b.build cfg tbl glo (.typed n toks)).2 = .err .encodingNotSupported := by
  rw [build_typed, h]

/-! ### The body encoder's only panics are the model's token-shape rejections

`encFrag` answers `panic "tokens…"` for a token stream that no Rust value corresponds to (wrong token
kind, list longer than its capacity); the driver reports those as BAD-OP. Every other outcome of a
well-formed layout (`WF.WFFrag`, Rtcm/Proofs/WFFrag.lean) on a byte buffer is `ok` or `err`, in both
build profiles (`cfg` is universally quantified): no modelled Rust panic — `usize` underflow,
oversized shift, `sig_id` shift overflow, zero-width cell mask — is reachable. -/

open Rtcm.WF Rtcm.NoPanic Rtcm.Interp

theorem table_wfFrag : Gen.messageTable.all (fun r => WFFrag r.frag) = true := WF.table_wfFrag

theorem encFrag_panic_only_tokens (cfg : Cfg) (glo : SigTable) (f : Frag) (hw : WFFrag f = true)
    (ts : List Tok) (c : Cur) (hc : ∀ d ∈ c.data, d < 256) (w : String)
    (h : encFrag cfg glo f ts c = .panic w) : w.startsWith "tokens" = true :=
  (encFrag_sat cfg glo f hw ts c hc).of_panic h

theorem encFrag_ok_ext (cfg : Cfg) (glo : SigTable) (f : Frag) (hw : WFFrag f = true)
    (ts : List Tok) (c : Cur) (hc : ∀ d ∈ c.data, d < 256) (c' : Cur) (ts' : List Tok)
    (h : encFrag cfg glo f ts c = .ok (c', ts')) :
    (∀ d ∈ c'.data, d < 256) ∧ c'.data.length = c.data.length ∧ c.off ≤ c'.off ∧
    (c.off ≤ 8 * c.data.length → c'.off ≤ 8 * c'.data.length) ∧
    ∀ g, g < c.off → Bits.bitAt c'.data g = Bits.bitAt c.data g := by
  have := (encFrag_sat cfg glo f hw ts c hc).of_ok h
  exact ⟨this.good, this.len, this.mono, this.fit, this.keep⟩

theorem build_total (cfg : Cfg) (tbl : List MsgRow) (htbl : ∀ row ∈ tbl, WFFrag row.frag = true)
    (glo : SigTable) (b : Builder) (hb : ∀ x ∈ b.data, x < 256) (m : Msg) (w : String)
    (h : (b.build cfg tbl glo m).2 = .panic w) : w.startsWith "tokens" = true := by
  by_cases hm : ∃ n toks, m = .typed n toks
  · obtain ⟨n, toks, rfl⟩ := hm
    rw [build_typed] at h
    split at h
    · cases h
    · next row hrow =>
      rcases put_total cfg ⟨.u, 16⟩ (window (workData b)) 0 n 12
        (window_lt (workData_lt b hb)) with hp | ⟨d, hp, _, _, hg, _⟩
      · rw [hp] at h; cases h
      · rw [hp] at h
        have hes :=
          encFrag_sat cfg glo row.frag (htbl row (List.mem_of_find?_eq_some hrow)) toks ⟨d, 0 + 12⟩ hg
        dsimp only at h
        split at h
        · split at h
          · cases h
            exact tokPanic_trailing
          · cases h
        · cases h
        · next q hq =>
          cases h
          exact hes.of_panic hq
  · rw [build_untyped cfg tbl glo b m fun n toks e => hm ⟨n, toks, e⟩] at h
    cases h

/-- C09, second half: every frame the builder returns is well formed and passes the specification's
frame check (preamble, reserved bits zero, length field = payload length, CRC-24Q). -/
theorem build_wellformed (cfg : Cfg) (tbl : List MsgRow) (htbl : ∀ row ∈ tbl, WFFrag row.frag = true)
    (glo : SigTable) (b : Builder) (hb : BInv b) (m : Msg) (fr : List Nat)
    (h : (b.build cfg tbl glo m).2 = .ok fr) :
    8 ≤ fr.length ∧ fr.length ≤ 1029 ∧ (∀ x ∈ fr, x < 256) ∧
    fr.getD 0 0 = 0xd3 ∧ fr.getD 1 0 &&& 0xFC = 0 ∧
    ((fr.getD 1 0 &&& 3) <<< 8 ||| fr.getD 2 0) = fr.length - 6 ∧
    ∃ f, frameNew (fr.map UInt8.ofNat) = .ok f ∧ f.frameData = fr.map UInt8.ofNat ∧
      f.data.length = fr.length - 6 ∧ f.number.isSome = true ∧
      ∀ n toks, m = .typed n toks → n < 4096 → f.number = some n := by
  obtain ⟨n0, toks0, _, _, c, rfl, _, B, rfl⟩ := build_ok_stages htbl hb h
  have hlo : 12 ≤ c.off := B.ext.mono
  obtain ⟨hL2, hL, -⟩ := payLen_bounds hlo B.hi
  have hP : (c.data.take (payLen c)).length = payLen c := by rw [List.length_take, B.clen]; omega
  have hPb : ∀ x ∈ c.data.take (payLen c), x < 256 := fun x hx => B.ext.good x (List.mem_of_mem_take hx)
  obtain ⟨s1, s2, s3, s4, s5⟩ := frameOf_spec _ _ hP hL2 hL
  obtain ⟨hf, hn⟩ := frameNew_frameOf B.ext.good B.clen hlo B.hi
  refine ⟨by omega, by omega, frameOf_bytes _ _ hPb, s2, s3, ?_, _, hf, ?_, ?_, ?_, ?_⟩
  · rw [s4, s1]
    omega
  · rw [s5]
    rfl
  · rw [s1]
    show (List.map _ _).length = _
    rw [List.length_map, hP]
    omega
  · rw [hn]
    rfl
  · intro n toks hm hn'
    cases hm
    rw [hn, B.num hn']

theorem build_inv (cfg : Cfg) (tbl : List MsgRow) (glo : SigTable) (b : Builder) (hb : BInv b) (m : Msg) :
    BInv (b.build cfg tbl glo m).1 := by
  obtain ⟨hg, hbt⟩ := hb.workData
  obtain ⟨d, e, hd⟩ := build_fst (below_putInv.and bytes_putInv) cfg tbl glo b m
  rw [e]
  rcases hd with rfl | ⟨c, ⟨hl, hby⟩, rfl | rfl⟩
  · exact binv_of_goodBuf hg hbt _
  · exact binv_of_goodBuf (goodBuf_putBack hg (hl.1.trans (window_length hg)))
      (putBack_lt hbt (hby (window_lt hbt))) _
  · exact binv_of_goodBuf (goodBuf_sealed hg (hl.1.trans (window_length hg)))
      (sealed_lt hbt (hby (window_lt hbt))) _

/-- a whole session on one builder: no call ever ends in a modelled Rust panic -/
theorem buildSeq_total (cfg : Cfg) (tbl : List MsgRow) (htbl : ∀ row ∈ tbl, WFFrag row.frag = true)
    (glo : SigTable) (b : Builder) (hb : BInv b) (ms : List Msg) :
    ∀ r ∈ buildSeq cfg tbl glo b ms, ∀ w, r = .panic w → w.startsWith "tokens" = true := by
  induction ms generalizing b with
  | nil => intro r hr; cases hr
  | cons m ms ih =>
    intro r hr w hw
    unfold buildSeq at hr
    simp only [List.mem_cons] at hr
    rcases hr with rfl | hr
    · exact build_total cfg tbl htbl glo b hb.bytes m w hw
    · exact ih _ (build_inv cfg tbl glo b hb m) r hr w hw

/-- Headline (first half of C09): with the regenerated message table and GLONASS table, from any
builder state reachable from `Builder.new` (`BInv`: 1029 bytes, preamble first — `binv_new`,
`build_inv`), in both build profiles, `build_message` never ends in a modelled Rust panic; the only
`panic` outcomes of the model are its own rejections of token streams no Rust value corresponds to. -/
theorem build_total_gen (cfg : Cfg) (b : Builder) (hb : BInv b) (m : Msg) (w : String)
    (h : (b.build cfg Gen.messageTable Gen.sigTable_glo m).2 = .panic w) :
    w.startsWith "tokens" = true :=
  build_total cfg Gen.messageTable (fun _ h => WF.wfFrag_of_mem h) Gen.sigTable_glo b hb.bytes m w h

/-- the same for a whole session on one builder -/
theorem buildSeq_total_gen (cfg : Cfg) (ms : List Msg) :
    ∀ r ∈ buildSeq cfg Gen.messageTable Gen.sigTable_glo Builder.new ms, ∀ w, r = .panic w →
      w.startsWith "tokens" = true :=
  buildSeq_total cfg Gen.messageTable (fun _ h => WF.wfFrag_of_mem h) Gen.sigTable_glo Builder.new
    binv_new ms

/-- Headline (second half of C09): every frame `build_message` returns is 8..=1029 bytes of which the
first is 0xD3, the six reserved bits are zero, the 10-bit length field is the frame length minus 6,
and the frame passes the specification's frame check `frameNew` (CRC-24Q included) as exactly that
frame, with a message number present. -/
theorem build_wellformed_gen (cfg : Cfg) (b : Builder) (hb : BInv b) (m : Msg) (fr : List Nat)
    (h : (b.build cfg Gen.messageTable Gen.sigTable_glo m).2 = .ok fr) :
    8 ≤ fr.length ∧ fr.length ≤ 1029 ∧ (∀ x ∈ fr, x < 256) ∧
    fr.getD 0 0 = 0xd3 ∧ fr.getD 1 0 &&& 0xFC = 0 ∧
    ((fr.getD 1 0 &&& 3) <<< 8 ||| fr.getD 2 0) = fr.length - 6 ∧
    ∃ f, frameNew (fr.map UInt8.ofNat) = .ok f ∧ f.frameData = fr.map UInt8.ofNat ∧
      f.data.length = fr.length - 6 ∧ f.number.isSome = true ∧
      ∀ n toks, m = .typed n toks → n < 4096 → f.number = some n :=
  build_wellformed cfg Gen.messageTable (fun _ h => WF.wfFrag_of_mem h) Gen.sigTable_glo b hb m fr h

/-- message numbers of the regenerated table fit the 12-bit number field -/
theorem gen_numbers_lt : Gen.messageTable.all (fun r => decide (r.number < 4096)) = true := by
  decide +kernel

theorem number_lt_of_findRow {n : Nat} {row : MsgRow} (h : findRow Gen.messageTable n = some row) :
    n < 4096 := by
  have := List.all_eq_true.mp gen_numbers_lt row (List.mem_of_find?_eq_some h)
  rw [findRow_number h] at this
  simpa using this

/-- the frame of a typed message carries that message's number -/
theorem build_number_gen (cfg : Cfg) (b : Builder) (hb : BInv b) (n : Nat) (toks : List Tok)
    (fr : List Nat)
    (h : (b.build cfg Gen.messageTable Gen.sigTable_glo (.typed n toks)).2 = .ok fr) :
    ∃ f, frameNew (fr.map UInt8.ofNat) = .ok f ∧ f.number = some n := by
  obtain ⟨-, -, -, -, -, -, f, hf, -, -, -, hnum⟩ := build_wellformed_gen cfg b hb _ fr h
  obtain ⟨_, _, row, _, _, _, hm, hrow, _⟩ := build_ok_iff.mp h
  cases hm
  exact ⟨f, hf, hnum _ _ rfl (number_lt_of_findRow hrow)⟩

end Rtcm.C09
