import Rtcm.Props.C01
import Rtcm.Props.C05
import Rtcm.Props.C06
import Rtcm.Props.C13
/-!
# Sys  End-to-end theorems: builder → byte stream → chunked scanner → decoder

The per-component properties (C01 codec normal form, C05 scanner, C06 chunking,
C09 built frames are well formed, C12 builder history, C13 suffix irrelevance) composed into
statements about whole streams.

An exact frame is a byte string that `frameNew` accepts with nothing behind it.  Back-to-back exact
frames are delivered one by one and in order, whatever the payloads contain (0xD3 bytes, nested frames):
by the caller protocol, by the iterator, under every chunking and every schedule of appends and scanner
calls.  Followed by any tail (caller protocol, iterator, chunking) or separated by idle bytes (caller
protocol, chunking) they still are, and the scan goes on behind them as if they had not been there.  The part on built streams puts the builder in front and the decoder behind.
-/
namespace Rtcm.Sys
open Rtcm.Message Rtcm.CodecLaw

theorem ExactFrame.frameData_eq {bs : List UInt8} {f : Frame} (h : ExactFrame bs f) :
    f.frameData = bs := by
  have hl := frameNew_ok_frameLen bs f h.1
  rw [hl.2.2.2, ← h.2, List.take_length]

theorem exactFrame_mkFrame (resv : Nat) (payload : List UInt8) (hL : payload.length ≤ 1023) :
    ExactFrame (mkFrame resv payload) (mkFrameResult resv payload) :=
  ⟨frameNew_mkFrame_nil resv payload hL, rfl⟩

theorem exactFrame_of_frameNew (d : List UInt8) (f : Frame) (h : frameNew d = .ok f) :
    ExactFrame f.frameData f :=
  ⟨C13.frame_bytes_suffice d f h, rfl⟩

theorem drainAll_nil : drainAll [] = ([], []) := rfl

/-- **Back-to-back valid frames are all delivered, in order, and scanning continues on the tail as if
they had not been there** — whatever the payloads contain (0xD3 bytes, complete nested frames,
truncated candidates) and whatever the tail is. -/
theorem drain_exact_frames (ps : List (List UInt8 × Frame)) (h : ∀ p ∈ ps, ExactFrame p.1 p.2)
    (tail : List UInt8) :
    drainAll ((ps.map (·.1)).flatten ++ tail)
      = (ps.map (·.2) ++ (drainAll tail).1, (drainAll tail).2) :=
  Passes.flatten ps (·.1) (·.2) (fun p hp => passes_exact (h p hp)) tail

/-- Corollary (`tail = []`): everything is delivered and nothing remains. -/
theorem drain_exact_frames_all (ps : List (List UInt8 × Frame)) (h : ∀ p ∈ ps, ExactFrame p.1 p.2) :
    drainAll (ps.map (·.1)).flatten = (ps.map (·.2), []) := by
  simpa [drainAll_nil] using drain_exact_frames ps h []

theorem stream_length (ps : List (List UInt8 × Frame)) (h : ∀ p ∈ ps, ExactFrame p.1 p.2) :
    (ps.map (·.1)).flatten.length = (ps.map (·.2.frameLen)).sum := by
  induction ps with
  | nil => rfl
  | cons p ps ih =>
    have hp : ExactFrame p.1 p.2 := h p (List.mem_cons_self ..)
    simp only [List.map_cons, List.flatten_cons, List.length_append, List.sum_cons,
      ih (fun q hq => h q (List.mem_cons_of_mem _ hq)), hp.2]

/-- Non-vacuity: two exact frames; the payload of the first starts with a stray 0xD3 and then contains
a complete, valid nested frame (itself with a 0xD3 payload); the second has non-zero reserved bits. -/
example :
    let inner := mkFrame 0 [0xd3, 0x00, 0x00]
    let p1 := 0xd3 :: inner
    let p2 : List UInt8 := [0x3e, 0xd0, 0xd3]
    let ps := [(mkFrame 0 p1, mkFrameResult 0 p1), (mkFrame 5 p2, mkFrameResult 5 p2)]
    (∀ p ∈ ps, ExactFrame p.1 p.2) ∧
      (∃ g, frameNew ((mkFrame 0 p1).drop 4) = .ok g) ∧   -- the nested frame really is one
      (ps.map (·.1)).flatten.length = 25 := by
  exact ⟨forall_mem_pair (exactFrame_mkFrame _ _ (by decide)) (exactFrame_mkFrame _ _ (by decide)),
    ⟨_, (frameNew_mkFrame 0 [0xd3, 0x00, 0x00] _ (by decide))⟩, by decide⟩

/-- The iterator (`MsgFrameIter`) on back-to-back frames followed by a tail: the frames, then what it
yields on the tail alone; its final index is the stream length plus its final index on the tail. -/
theorem iter_exact_frames_tail (ps : List (List UInt8 × Frame)) (h : ∀ p ∈ ps, ExactFrame p.1 p.2)
    (tail : List UInt8) :
    iterFrames ((ps.map (·.1)).flatten ++ tail)
      = (ps.map (·.2) ++ (iterFrames tail).1,
         (ps.map (·.1)).flatten.length + (iterFrames tail).2) := by
  obtain ⟨a1, a2, _⟩ := C05.iter_eq_repeated_scan ((ps.map (·.1)).flatten ++ tail)
  obtain ⟨b1, b2, _⟩ := C05.iter_eq_repeated_scan tail
  have hd := drain_exact_frames ps h tail
  have hr := drainAll_rem_le tail
  apply Prod.ext
  · rw [a1, hd, b1]
  · rw [a2, hd, b2]
    simp only [List.length_append]
    omega

/-- **The iterator on back-to-back valid frames yields exactly those frames, in order, and stops at
the end of the data.** -/
theorem iter_exact_frames (ps : List (List UInt8 × Frame)) (h : ∀ p ∈ ps, ExactFrame p.1 p.2) :
    iterFrames (ps.map (·.1)).flatten = (ps.map (·.2), (ps.map (·.1)).flatten.length) := by
  have := iter_exact_frames_tail ps h []
  have hn : iterFrames [] = ([], 0) := rfl
  simpa [hn] using this

example :
    let p1 : List UInt8 := 0xd3 :: mkFrame 0 [0xd3, 0x00, 0x00]
    (iterFrames (mkFrame 0 p1 ++ mkFrame 5 [0x3e, 0xd0, 0xd3])).1
      = [mkFrameResult 0 p1, mkFrameResult 5 [0x3e, 0xd0, 0xd3]] := by
  intro p1
  have := iter_exact_frames [(mkFrame 0 p1, mkFrameResult 0 p1),
    (mkFrame 5 [0x3e, 0xd0, 0xd3], mkFrameResult 5 [0x3e, 0xd0, 0xd3])] (
    forall_mem_pair (exactFrame_mkFrame _ _ (by decide)) (exactFrame_mkFrame _ _ (by decide)))
  simp only [List.map_cons, List.map_nil, List.flatten_cons, List.flatten_nil, List.append_nil] at this
  rw [this]

/-- **However the stream of back-to-back frames is cut into chunks** (cuts inside the preamble, the
length field, payloads, checksums; empty chunks), the chunked caller protocol delivers exactly those
frames, in order, leaves an empty buffer and has consumed every byte. -/
theorem feed_exact_frames (ps : List (List UInt8 × Frame)) (h : ∀ p ∈ ps, ExactFrame p.1 p.2)
    (chunks : List (List UInt8)) (hc : chunks.flatten = (ps.map (·.1)).flatten) :
    (feedAll chunks).delivered = ps.map (·.2) ∧ (feedAll chunks).buf = [] ∧
      (feedAll chunks).consumed = (ps.map (·.1)).flatten.length := by
  obtain ⟨h1, h2, h3⟩ := C06.feedAll_eq chunks
  rw [hc, drain_exact_frames_all ps h] at h1 h2
  rw [hc, h2] at h3
  exact ⟨h1, h2, by simpa using h3⟩

/-- The same for every schedule interleaving appends and single scanner calls, finished by a drain. -/
theorem schedule_exact_frames (ps : List (List UInt8 × Frame)) (h : ∀ p ∈ ps, ExactFrame p.1 p.2)
    (ops : List StreamOp) (hc : appended ops = (ps.map (·.1)).flatten) :
    ((ops.foldl StreamState.step .init).finish).delivered = ps.map (·.2) ∧
      ((ops.foldl StreamState.step .init).finish).buf = [] ∧
      ((ops.foldl StreamState.step .init).finish).consumed = (ps.map (·.1)).flatten.length := by
  obtain ⟨h1, h2, h3⟩ := C06.any_schedule ops
  rw [hc, drain_exact_frames_all ps h] at h1 h2
  rw [hc, h2] at h3
  exact ⟨h1, h2, by simpa using h3⟩

/-- With a tail: any chunking of frames ++ tail delivers the frames, then what the tail alone delivers,
and keeps what the tail alone keeps. -/
theorem feed_exact_frames_tail (ps : List (List UInt8 × Frame)) (h : ∀ p ∈ ps, ExactFrame p.1 p.2)
    (tail : List UInt8) (chunks : List (List UInt8))
    (hc : chunks.flatten = (ps.map (·.1)).flatten ++ tail) :
    (feedAll chunks).delivered = ps.map (·.2) ++ (drainAll tail).1 ∧
      (feedAll chunks).buf = (drainAll tail).2 := by
  obtain ⟨h1, h2, _⟩ := C06.feedAll_eq chunks
  rw [hc, drain_exact_frames ps h tail] at h1 h2
  exact ⟨h1, h2⟩

/-- Non-vacuity: a chunking with cuts inside the header, the nested frame and the checksum, and an
empty chunk. -/
example :
    let p1 : List UInt8 := 0xd3 :: mkFrame 0 [0xd3, 0x00, 0x00]
    let ps := [(mkFrame 0 p1, mkFrameResult 0 p1), (mkFrame 5 [0x3e, 0xd0, 0xd3], mkFrameResult 5 [0x3e, 0xd0, 0xd3])]
    let s := (ps.map (·.1)).flatten
    let chunks := [s.take 2, [], (s.drop 2).take 5, (s.drop 7).take 8, s.drop 15]
    chunks.flatten = s ∧ (feedAll chunks).delivered = ps.map (·.2) := by
  intro p1 ps s chunks
  have hc : chunks.flatten = s := by decide +kernel
  have hex : ∀ p ∈ ps, ExactFrame p.1 p.2 :=
    forall_mem_pair (exactFrame_mkFrame _ _ (by decide)) (exactFrame_mkFrame _ _ (by decide))
  exact ⟨hc, (feed_exact_frames ps hex chunks hc).1⟩

/-- three lists of the same length, related position by position (core has no `List.Forall₃`) -/
inductive Forall₃ {α β γ : Type} (R : α → β → γ → Prop) : List α → List β → List γ → Prop where
  | nil : Forall₃ R [] [] []
  | cons {a b c as bs cs} : R a b c → Forall₃ R as bs cs → Forall₃ R (a :: as) (b :: bs) (c :: cs)

theorem Forall₃.length_eq {α β γ : Type} {R : α → β → γ → Prop} {as : List α} {bs : List β}
    {cs : List γ} (h : Forall₃ R as bs cs) : as.length = bs.length ∧ bs.length = cs.length := by
  induction h with
  | nil => exact ⟨rfl, rfl⟩
  | cons _ _ ih => simp only [List.length_cons]; omega

theorem Forall₃.of_mem_right {α β γ : Type} {R : α → β → γ → Prop} {as : List α} {bs : List β}
    {cs : List γ} (h : Forall₃ R as bs cs) (c : γ) (hc : c ∈ cs) : ∃ a b, a ∈ as ∧ b ∈ bs ∧ R a b c := by
  induction h with
  | nil => simp at hc
  | cons hr _ ih =>
    rcases List.mem_cons.mp hc with rfl | hc
    · exact ⟨_, _, List.mem_cons_self .., List.mem_cons_self .., hr⟩
    · obtain ⟨a, b, ha, hb, hr'⟩ := ih hc
      exact ⟨a, b, List.mem_cons_of_mem _ ha, List.mem_cons_of_mem _ hb, hr'⟩

theorem forall₃_iff_getElem {α β γ : Type} {R : α → β → γ → Prop} {as : List α} {bs : List β}
    {cs : List γ} :
    Forall₃ R as bs cs ↔
      ∃ (h1 : as.length = bs.length) (h2 : bs.length = cs.length),
        ∀ (i : Nat) (hi : i < as.length), R as[i] (bs[i]'(by omega)) (cs[i]'(by omega)) := by
  constructor
  · intro h
    induction h with
    | nil => exact ⟨rfl, rfl, fun i hi => by simp at hi⟩
    | cons hr _ ih =>
      obtain ⟨h1, h2, hall⟩ := ih
      refine ⟨by simp [h1], by simp [h2], ?_⟩
      intro i hi
      cases i with
      | zero => exact hr
      | succ i => exact hall i (by simpa using hi)
  · rintro ⟨h1, h2, hall⟩
    induction as generalizing bs cs with
    | nil =>
      cases bs with
      | nil =>
        cases cs with
        | nil => exact .nil
        | cons _ _ => simp at h2
      | cons _ _ => simp at h1
    | cons a as ih =>
      cases bs with
      | nil => simp at h1
      | cons b bs =>
        cases cs with
        | nil => simp at h2
        | cons c cs =>
          refine .cons (hall 0 (by simp)) (ih (by simpa using h1) (by simpa using h2) ?_)
          intro i hi
          exact hall (i + 1) (by simpa using hi)

/-- What the end-to-end theorem says about message `m = (n, toks)`, its built frame `fr` (bytes as
numbers) and the frame `f` the scanner delivered for it:
* `f` is what `frameNew` makes of exactly the built bytes (nothing more, nothing less);
* `f` carries the message's number and decodes to a typed message of the same number `n` — never
  `corrupt`, `empty` or `notSupported` — with some token list `nt`;
* if the input was clean (`C01.Clean`, no condition except for 1059/1065/1230), building
  `.typed n nt` on a builder with any history (`hist = []`: a fresh builder) returns `fr` byte for
  byte. -/
def Roundtrip (cfg : Cfg) (m : Nat × List Tok) (fr : List Nat) (f : Frame) : Prop :=
  frameNew (fr.map UInt8.ofNat) = .ok f ∧ f.frameData = fr.map UInt8.ofNat ∧ f.number = some m.1 ∧
  ∃ nt, decodeFrame cfg Gen.messageTable f = .ok (.typed m.1 nt) ∧
    (C01.Clean m.1 m.2 → ∀ hist : List Msg,
      ((C01.after cfg hist).build cfg Gen.messageTable Gen.sigTable_glo (.typed m.1 nt)).2 = .ok fr)

/-- one message on a fresh builder: the built bytes are an exact frame with the `Roundtrip` property -/
theorem built_one (cfg : Cfg) (m : Nat × List Tok) (fr : List Nat) (hok : TokOK m.2)
    (h : (Builder.new.build cfg Gen.messageTable Gen.sigTable_glo (.typed m.1 m.2)).2 = .ok fr) :
    ∃ f, ExactFrame (fr.map UInt8.ofNat) f ∧ Roundtrip cfg m fr f := by
  obtain ⟨f, hf, hnum⟩ := C09.build_number_gen cfg Builder.new C09.binv_new m.1 m.2 fr h
  obtain ⟨-, -, -, -, -, -, f', hf', hfd, -⟩ :=
    C09.build_wellformed_gen cfg Builder.new C09.binv_new _ fr h
  cases hf.symm.trans hf'
  obtain ⟨f'', nt, hf'', hdec⟩ := C01.build_decodes_same_type cfg [] m.1 m.2 fr hok h
  cases hf.symm.trans hf''
  have hex : ExactFrame (fr.map UInt8.ofNat) f := ⟨hf, by rw [Frame.frameLen, hfd]⟩
  have hre : C01.Clean m.1 m.2 → ∀ hist : List Msg,
      ((C01.after cfg hist).build cfg Gen.messageTable Gen.sigTable_glo (.typed m.1 nt)).2 = .ok fr :=
    fun hcl hist => C01.rebuild_reproduces cfg [] hist m.1 m.2 nt fr f hok hcl h hf hdec
  exact ⟨f, hex, hf, hfd, hnum, nt, hdec, hre⟩

/-- all messages of a run on one builder: the built byte strings are exact frames of `Roundtrip` frames
(each result is a fresh builder's, C12 `buildSeq_eq_map`) -/
theorem built_run (cfg : Cfg) (ms : List (Nat × List Tok)) (frs : List (List Nat))
    (hok : ∀ m ∈ ms, TokOK m.2)
    (hb : buildSeq cfg Gen.messageTable Gen.sigTable_glo Builder.new (ms.map fun m => .typed m.1 m.2)
            = frs.map Res.ok) :
    ∃ ps : List (List UInt8 × Frame), ps.map (·.1) = frs.map (·.map UInt8.ofNat) ∧
      (∀ p ∈ ps, ExactFrame p.1 p.2) ∧ Forall₃ (Roundtrip cfg) ms frs (ps.map (·.2)) := by
  rw [C12.buildSeq_eq_map cfg _ _ _ _ C12.inv_new, List.map_map] at hb
  induction ms generalizing frs with
  | nil =>
    cases frs with
    | nil => exact ⟨[], rfl, nofun, .nil⟩
    | cons _ _ => cases hb
  | cons m ms ih =>
    cases frs with
    | nil => cases hb
    | cons fr frs =>
      obtain ⟨h1, h2⟩ := List.cons.inj hb
      obtain ⟨f, hex, hrt⟩ := built_one cfg m fr (hok m (List.mem_cons_self ..)) h1
      obtain ⟨ps, hps, hall, hrel⟩ := ih frs (fun q hq => hok q (List.mem_cons_of_mem _ hq)) h2
      refine ⟨(fr.map UInt8.ofNat, f) :: ps, congrArg _ hps, fun p hp => ?_, .cons hrt hrel⟩
      rcases List.mem_cons.mp hp with rfl | hp
      · exact hex
      · exact hall p hp

/-- **End to end.**  Take any list of typed messages `ms` (of any of the 108 supported types, byte
strings being bytes: `TokOK`), build them one after the other on ONE builder (`buildSeq` from
`Builder.new`), and suppose every build returns a frame (`frs`).  Concatenate the frames into a byte
stream and feed it to the chunked caller protocol in ANY chunking.  Then
* nothing is left in the buffer and every byte has been consumed;
* the delivered frames are exactly one per message, in order (`Forall₃`), and for the i-th
  (`Roundtrip`): it is `frameNew` of exactly the i-th built byte string, carries the i-th message's
  number, decodes to `.typed n_i nt_i` (never corrupt / empty / unsupported), and — when the i-th input
  is `Clean` — building `.typed n_i nt_i` on a builder with any history reproduces the i-th frame byte for
  byte.

No hypothesis relates the messages to each other; payload bytes equal to 0xD3, or payloads containing
whole valid frames, do not disturb delivery. -/
theorem built_stream_roundtrip (cfg : Cfg) (ms : List (Nat × List Tok)) (frs : List (List Nat))
    (hok : ∀ m ∈ ms, TokOK m.2)
    (hb : buildSeq cfg Gen.messageTable Gen.sigTable_glo Builder.new (ms.map fun m => .typed m.1 m.2)
            = frs.map Res.ok)
    (chunks : List (List UInt8)) (hc : chunks.flatten = (frs.map (·.map UInt8.ofNat)).flatten) :
    (feedAll chunks).buf = [] ∧
    (feedAll chunks).consumed = (frs.map (·.length)).sum ∧
    Forall₃ (Roundtrip cfg) ms frs (feedAll chunks).delivered := by
  obtain ⟨ps, hps, hall, hrel⟩ := built_run cfg ms frs hok hb
  obtain ⟨h1, h2, h3⟩ := feed_exact_frames ps hall chunks (by rw [hc, hps])
  refine ⟨h2, ?_, by rw [h1]; exact hrel⟩
  rw [h3, hps, List.length_flatten, List.map_map]
  congr 1
  apply List.map_congr_left
  intro fr _
  simp

/-- The same, without the count of consumed bytes, for every schedule of appends and single scanner calls,
finished by a drain. -/
theorem built_stream_roundtrip_schedule (cfg : Cfg) (ms : List (Nat × List Tok)) (frs : List (List Nat))
    (hok : ∀ m ∈ ms, TokOK m.2)
    (hb : buildSeq cfg Gen.messageTable Gen.sigTable_glo Builder.new (ms.map fun m => .typed m.1 m.2)
            = frs.map Res.ok)
    (ops : List StreamOp) (hc : appended ops = (frs.map (·.map UInt8.ofNat)).flatten) :
    ((ops.foldl StreamState.step .init).finish).buf = [] ∧
    Forall₃ (Roundtrip cfg) ms frs ((ops.foldl StreamState.step .init).finish).delivered := by
  obtain ⟨ps, hps, hall, hrel⟩ := built_run cfg ms frs hok hb
  obtain ⟨h1, h2, _⟩ := schedule_exact_frames ps hall ops (by rw [hc, hps])
  exact ⟨h2, by rw [h1]; exact hrel⟩

/-- The stream may be followed by arbitrary bytes (noise, a truncated frame, foreign frames): the built
frames are still delivered first, one per message, and the rest is what the tail alone gives. -/
theorem built_stream_roundtrip_tail (cfg : Cfg) (ms : List (Nat × List Tok)) (frs : List (List Nat))
    (hok : ∀ m ∈ ms, TokOK m.2)
    (hb : buildSeq cfg Gen.messageTable Gen.sigTable_glo Builder.new (ms.map fun m => .typed m.1 m.2)
            = frs.map Res.ok)
    (tail : List UInt8) (chunks : List (List UInt8))
    (hc : chunks.flatten = (frs.map (·.map UInt8.ofNat)).flatten ++ tail) :
    ∃ fs, (feedAll chunks).delivered = fs ++ (drainAll tail).1 ∧
      (feedAll chunks).buf = (drainAll tail).2 ∧ Forall₃ (Roundtrip cfg) ms frs fs := by
  obtain ⟨ps, hps, hall, hrel⟩ := built_run cfg ms frs hok hb
  obtain ⟨h1, h2⟩ := feed_exact_frames_tail ps hall tail chunks (by rw [hc, hps])
  exact ⟨_, h1, h2, hrel⟩

/-! The hypotheses are satisfiable: a 1005, a 1001 and again a 1005 message on one builder. -/

def exMsgs : List (Nat × List Tok) := [(1005, C01.ex1005), (1001, C01.ex1001), (1005, C01.ex1005)]

example : ∀ m ∈ exMsgs, TokOK m.2 := by
  intro m hm t ht
  revert m t
  decide

example : ∀ m ∈ exMsgs, C01.Clean m.1 m.2 := by
  intro m hm
  simp only [exMsgs, List.mem_cons, List.not_mem_nil, or_false] at hm
  rcases hm with rfl | rfl | rfl <;> exact C01.clean_trivial _ _ (by decide)

theorem exists_of_all_isOk {α : Type} : ∀ rs : List (Res α), rs.all Res.isOk = true →
    ∃ xs : List α, xs.length = rs.length ∧ rs = xs.map Res.ok
  | [], _ => ⟨[], rfl, rfl⟩
  | r :: rs, h => by
    simp only [List.all_cons, Bool.and_eq_true] at h
    obtain ⟨xs, hl, hxs⟩ := exists_of_all_isOk rs h.2
    cases r with
    | ok x => exact ⟨x :: xs, by simp [hl], by simp [hxs]⟩
    | err e => simp [Res.isOk] at h
    | panic w => simp [Res.isOk] at h

/-- every build of the run succeeds, in both build profiles: `frs` exists, with three frames -/
theorem exMsgs_built (cfg : Cfg) : ∃ frs : List (List Nat), frs.length = 3 ∧
    buildSeq cfg Gen.messageTable Gen.sigTable_glo Builder.new (exMsgs.map fun m => .typed m.1 m.2)
      = frs.map Res.ok := by
  have key : ∀ chk : Bool,
      (buildSeq ⟨chk⟩ Gen.messageTable Gen.sigTable_glo Builder.new
        (exMsgs.map fun m => .typed m.1 m.2)).all Res.isOk = true ∧
      (buildSeq ⟨chk⟩ Gen.messageTable Gen.sigTable_glo Builder.new
        (exMsgs.map fun m => .typed m.1 m.2)).length = 3 := by decide +kernel
  obtain ⟨hk, hlen⟩ := key cfg.checked
  obtain ⟨frs, hl, hfrs⟩ := exists_of_all_isOk _ hk
  exact ⟨frs, by rw [hl, hlen], hfrs⟩

/-- the end-to-end theorem applied to the example run: whatever the chunking, three frames come out,
numbered 1005, 1001, 1005, each decoding to a typed message of that number -/
example (cfg : Cfg) : ∃ frs : List (List Nat), frs.length = 3 ∧
    ∀ chunks : List (List UInt8), chunks.flatten = (frs.map (·.map UInt8.ofNat)).flatten →
      (feedAll chunks).buf = [] ∧
      (feedAll chunks).delivered.map (·.number) = [some 1005, some 1001, some 1005] ∧
      ∀ f ∈ (feedAll chunks).delivered, ∃ n nt, decodeFrame cfg Gen.messageTable f = .ok (.typed n nt) := by
  obtain ⟨frs, hl, hb⟩ := exMsgs_built cfg
  refine ⟨frs, hl, fun chunks hc => ?_⟩
  obtain ⟨h1, _, h3⟩ := built_stream_roundtrip cfg exMsgs frs
    (by intro m hm t ht; revert m t; decide) hb chunks hc
  refine ⟨h1, ?_, ?_⟩
  · generalize (feedAll chunks).delivered = fs at h3
    unfold exMsgs at h3
    cases h3 with
    | cons r1 h3 =>
      cases h3 with
      | cons r2 h3 =>
        cases h3 with
        | cons r3 h3 =>
          cases h3
          simp [r1.2.2.1, r2.2.2.1, r3.2.2.1]
  · intro f hf
    obtain ⟨m, fr, _, _, _, _, _, nt, hd, _⟩ := h3.of_mem_right f hf
    exact ⟨_, nt, hd⟩

/-- Idle bytes alone: nothing is delivered and nothing is kept. -/
theorem drainAll_dead (g : List UInt8) (hg : ∀ b ∈ g, b ≠ 0xd3) : drainAll g = ([], []) := by
  simpa [drainAll_nil] using passes_idle hg []

/-- **Idle bytes between frames are skipped and every frame is still delivered, in order.** Each
element of `ps` is (gap, frame bytes, frame): the gap is any byte string without the preamble value
0xD3 (it may be empty), the frame bytes are an exact frame. The caller protocol on
gap₁ ++ frame₁ ++ gap₂ ++ frame₂ ++ … ++ tail delivers frame₁, frame₂, … and then goes on with the tail
exactly as if gaps and frames had not been there. -/
theorem drain_frames_with_gaps (ps : List (List UInt8 × List UInt8 × Frame))
    (hg : ∀ p ∈ ps, ∀ b ∈ p.1, b ≠ 0xd3) (h : ∀ p ∈ ps, ExactFrame p.2.1 p.2.2)
    (tail : List UInt8) :
    drainAll ((ps.map fun p => p.1 ++ p.2.1).flatten ++ tail)
      = (ps.map (·.2.2) ++ (drainAll tail).1, (drainAll tail).2) :=
  Passes.flatten ps (fun p => p.1 ++ p.2.1) (·.2.2)
    (fun p hp => (passes_idle (hg p hp)).append (passes_exact (h p hp))) tail

/-- Corollary: the stream may also end in idle bytes; then everything is consumed. -/
theorem drain_frames_with_gaps_all (ps : List (List UInt8 × List UInt8 × Frame))
    (hg : ∀ p ∈ ps, ∀ b ∈ p.1, b ≠ 0xd3) (h : ∀ p ∈ ps, ExactFrame p.2.1 p.2.2)
    (last : List UInt8) (hlast : ∀ b ∈ last, b ≠ 0xd3) :
    drainAll ((ps.map fun p => p.1 ++ p.2.1).flatten ++ last) = (ps.map (·.2.2), []) := by
  rw [drain_frames_with_gaps ps hg h last, drainAll_dead last hlast, List.append_nil]

/-- The same for every chunking of the stream (cuts inside gaps, headers, payloads, checksums; empty
chunks): the frames, then what the tail alone delivers; the buffer keeps what the tail alone keeps. -/
theorem feed_frames_with_gaps (ps : List (List UInt8 × List UInt8 × Frame))
    (hg : ∀ p ∈ ps, ∀ b ∈ p.1, b ≠ 0xd3) (h : ∀ p ∈ ps, ExactFrame p.2.1 p.2.2)
    (tail : List UInt8) (chunks : List (List UInt8))
    (hc : chunks.flatten = (ps.map fun p => p.1 ++ p.2.1).flatten ++ tail) :
    (feedAll chunks).delivered = ps.map (·.2.2) ++ (drainAll tail).1 ∧
      (feedAll chunks).buf = (drainAll tail).2 := by
  obtain ⟨h1, h2, _⟩ := C06.feedAll_eq chunks
  rw [hc, drain_frames_with_gaps ps hg h tail] at h1 h2
  exact ⟨h1, h2⟩

/-- Non-vacuity: idle bytes, a frame whose payload holds 0xD3, one more idle byte, a second frame with
non-zero reserved bits, trailing idle bytes; cut into chunks (one of them empty) inside a gap, inside a
header, and between a payload and its checksum. Both frames are delivered, nothing is kept. -/
example :
    let p1 : List UInt8 := [0xd3, 0x00, 0xd3]
    let p2 : List UInt8 := [0x3e, 0xd0, 0xd3]
    let ps : List (List UInt8 × List UInt8 × Frame) :=
      [([0x00, 0xff, 0x12], mkFrame 0 p1, mkFrameResult 0 p1),
       ([0x55], mkFrame 5 p2, mkFrameResult 5 p2)]
    let tail : List UInt8 := [0x0d, 0x0a]
    let s := (ps.map fun p => p.1 ++ p.2.1).flatten ++ tail
    let chunks := [s.take 2, [], (s.drop 2).take 3, (s.drop 5).take 14, s.drop 19]
    (∀ p ∈ ps, ∀ b ∈ p.1, b ≠ 0xd3) ∧ (∀ p ∈ ps, ExactFrame p.2.1 p.2.2) ∧ s.length = 24 ∧
      drainAll s = (ps.map (·.2.2), []) ∧
      chunks.flatten = s ∧ (feedAll chunks).delivered = ps.map (·.2.2) ∧ (feedAll chunks).buf = [] := by
  intro p1 p2 ps tail s chunks
  have hg : ∀ p ∈ ps, ∀ b ∈ p.1, b ≠ 0xd3 := by decide
  have hex : ∀ p ∈ ps, ExactFrame p.2.1 p.2.2 :=
    forall_mem_pair (exactFrame_mkFrame _ _ (by decide)) (exactFrame_mkFrame _ _ (by decide))
  have htail : ∀ b ∈ tail, b ≠ 0xd3 := by decide
  have hc : chunks.flatten = s := by decide +kernel
  have hd := drain_frames_with_gaps_all ps hg hex tail htail
  obtain ⟨f1, f2⟩ := feed_frames_with_gaps ps hg hex tail chunks hc
  rw [drainAll_dead tail htail] at f1 f2
  exact ⟨hg, hex, by decide +kernel, hd, hc, by simpa using f1, f2⟩

end Rtcm.Sys
