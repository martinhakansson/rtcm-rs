import Rtcm.Proofs.CodecMsg
import Rtcm.Proofs.BiasCodec
import Rtcm.Props.C09
import Rtcm.Props.C12
import Rtcm.Props.C15
/-!
# C01  Encode/decode normal form: what the encoder writes, the decoder reads back

"For every message value the encoder accepts, of every supported message type, the produced frame decodes
to a message of the same type (never to the corrupt, empty or unsupported outcomes), and re-encoding that
decoded message reproduces the frame byte for byte provided the input had no duplicate satellite/signal
keys and no unrecognised signal identifiers in its bias lists (otherwise the twice-decoded messages are
still equal). A message obtained by decoding any frame is, whenever the encoder accepts it, a fixed point:
decoding its encoding returns an equal message, up to the order of satellite groups in the 1059/1065
code-bias lists."

Subject: `Message.Builder.build` (`MessageBuilder::build_message`), `frameNew` (`MessageFrame::new`),
`Message.decodeFrame` (`Message::from_message_frame`) over the regenerated table `Gen.messageTable`
(108 message types) and `Gen.sigTable_glo`; every theorem holds for both build profiles (`cfg`).

* `TokOK toks` (Proofs/Law.lean): every byte-string token consists of bytes `< 256` — the token
  stream denotes a Rust value (`Df88591String` / `ArrayString` hold `u8`s).  It is the only hypothesis
  on the input value in parts (1) and (3); part (2) also takes `Clean`.
* `Clean n toks`: `True` for every type except the three bias-list messages;
  for 1059/1065: every entry of the bias list carries a signal of the message's table (`CleanBias`);
  for 1230: no signal listed twice (`Clean1230`).  The bias list is what remains of `toks` after the
  header fields.
  MSM messages need no such predicate: duplicate satellite / cell keys and unrecognised signals are
  rejected by the encoder (C10 `masks_ok_iff_pre`).
* `Regroup n toks toks'`: `toks' = toks`, except for 1059/1065 where the bias entries of `toks'` are those
  of `toks` regrouped by ascending satellite, original order inside each satellite (`C16.grouped p id`).
-/
namespace Rtcm.C01
open Rtcm.Message Rtcm.Schema Rtcm.Interp Rtcm.CodecLaw Rtcm.DecLocal Rtcm.CodecMsg Rtcm.FragLaw
open Rtcm.SpecialRows Rtcm.BiasCodec

theorem build_ok_has_row (cfg : Cfg) (tbl : List MsgRow) (glo : SigTable) (b : Builder) (m : Msg) (fr : List Nat)
    (h : (b.build cfg tbl glo m).2 = .ok fr) : ∃ n toks row, m = .typed n toks ∧ findRow tbl n = some row := by
  obtain ⟨n, toks, row, _, _, _, hm, hrow, _⟩ := build_ok_iff.mp h
  exact ⟨n, toks, row, hm, hrow⟩

theorem countsFit_of_mem {row : MsgRow} (h : row ∈ Gen.messageTable) : Size.countsFit row.frag = true :=
  List.all_eq_true.mp C15.count_fields_wide_enough row h

theorem countFieldsPlain_of_mem {row : MsgRow} (h : row ∈ Gen.messageTable) :
    C15.countFieldsPlain row.frag = true :=
  List.all_eq_true.mp C15.count_fields_plain row h

theorem row_local (cfg : Cfg) {n : Nat} {row : MsgRow} (hrow : findRow Gen.messageTable n = some row) :
    Local (decFrag cfg row.frag) :=
  decFrag_local cfg _ (WF.wfFrag_of_mem (List.mem_of_find?_eq_some hrow))

theorem rowLaw_lawKind (cfg : Cfg) {row : MsgRow} (hmem : row ∈ Gen.messageTable)
    (hs : lawKind row.frag = true) :
    RowLaw (encFrag cfg Gen.sigTable_glo row.frag) (decFrag cfg row.frag) (fun _ => True) (fun _ => True) Eq
      fun _ => True :=
  .of_law (encFrag_law cfg Gen.sigTable_glo row.frag (WF.wfFrag_of_mem hmem) (countsFit_of_mem hmem)
      (countFieldsPlain_of_mem hmem) hs) (decFrag_tokOK cfg row.frag hs)

/-- the 1029 text message and the three bias-list messages; the other 104 rows (data fields, strings,
lists, all 49 MSM messages) are `lawKind` -/
theorem not_lawKind_numbers :
    (Gen.messageTable.filter fun r => !lawKind r.frag).map (·.number) = [1029, 1059, 1065, 1230] := by
  decide +kernel

/-! `hdr1029 … hdr1230`, the field names `"text_str"`, `"biases"`, `"glo_code_phase_biases"`, the capacity
`390` and the list `[1029, 1059, 1065, 1230]` are copied by hand from the generated table.
`frag_1029_shape … frag_1230_shape` check each copy against the generated fragment by `rfl`: if the regenerated
table changes one of these rows, the failure appears there, and the copy here is what has to follow. -/

def hdr1029 : List (String × DfSpec) :=
  [("reference_station_id", Gen.df_df003), ("modified_julian_day_number", Gen.df_df051),
   ("seconds_of_day_s", Gen.df_df052)]
def hdr1059 : List (String × DfSpec) :=
  [("gps_epoch_time_s", Gen.df_df385), ("ssr_update_interval_index", Gen.df_df_u4),
   ("multiple_message_flag", Gen.df_df_flag), ("iod_ssr", Gen.df_df_u4), ("ssr_provider_id", Gen.df_df_u16),
   ("ssr_solution_id", Gen.df_df_u4)]
def hdr1065 : List (String × DfSpec) :=
  [("glo_epoch_time_s", Gen.df_df_u17), ("ssr_update_interval_index", Gen.df_df_u4),
   ("multiple_message_flag", Gen.df_df_flag), ("iod_ssr", Gen.df_df_u4), ("ssr_provider_id", Gen.df_df_u16),
   ("ssr_solution_id", Gen.df_df_u4)]
def hdr1230 : List (String × DfSpec) :=
  [("reference_station_id", Gen.df_df003), ("glo_code_phase_bias_ind", Gen.df_df421)]

abbrev p1059 : Bias.Params := params1059 390 Gen.biasTable_df_msg1059_biases
abbrev p1065 : Bias.Params := params1065 390 Gen.biasTable_df_msg1065_biases

theorem row_1029 : findRow Gen.messageTable 1029 =
    some ⟨"msg1029", "Msg1029", "msg1029", 1029, Gen.frag_msg1029⟩ := by rfl
theorem row_1059 : findRow Gen.messageTable 1059 =
    some ⟨"msg1059", "Msg1059", "msg1059", 1059, Gen.frag_msg1059⟩ := by rfl
theorem row_1065 : findRow Gen.messageTable 1065 =
    some ⟨"msg1065", "Msg1065", "msg1065", 1065, Gen.frag_msg1065⟩ := by rfl
theorem row_1230 : findRow Gen.messageTable 1230 =
    some ⟨"msg1230", "Msg1230", "msg1230", 1230, Gen.frag_msg1230⟩ := by rfl

def Clean (n : Nat) (toks : List Tok) : Prop :=
  if n = 1059 then CleanDfs hdr1059 (CleanBias p1059) toks
  else if n = 1065 then CleanDfs hdr1065 (CleanBias p1065) toks
  else if n = 1230 then CleanDfs hdr1230 Clean1230 toks
  else True

def Regroup (n : Nat) (toks toks' : List Tok) : Prop :=
  if n = 1059 then RelDfs (RelBias p1059) toks toks'
  else if n = 1065 then RelDfs (RelBias p1065) toks toks'
  else toks' = toks

theorem clean_trivial (n : Nat) (toks : List Tok) (h : n ≠ 1059 ∧ n ≠ 1065 ∧ n ≠ 1230) : Clean n toks := by
  unfold Clean
  rw [if_neg h.1, if_neg h.2.1, if_neg h.2.2]
  trivial

theorem frag_1029_shape : Gen.frag_msg1029 = .seq (dfsThen hdr1029 "text_str" .text1029) := rfl
theorem frag_1059_shape : Gen.frag_msg1059 =
    .seq (dfsThen hdr1059 "biases" (.bias1059 390 Gen.biasTable_df_msg1059_biases)) := rfl
theorem frag_1065_shape : Gen.frag_msg1065 =
    .seq (dfsThen hdr1065 "biases" (.bias1065 390 Gen.biasTable_df_msg1065_biases)) := rfl
theorem frag_1230_shape : Gen.frag_msg1230 = .seq (dfsThen hdr1230 "glo_code_phase_biases" .bias1230) := rfl

/-- what a frame written by the encoder decodes to: for 1059/1065 a bias list that is its own regrouping -/
def QRow (n : Nat) (nt : List Tok) : Prop :=
  (n = 1059 → QDfs (QBias p1059) nt) ∧ (n = 1065 → QDfs (QBias p1065) nt)

/-- message 1029: the text field starts 57 bits into the payload (`12 + sumLens hdr1029`), so that its bytes,
15 bits further, lie on byte boundaries -/
theorem rowLaw_1029 (cfg : Cfg) :
    RowLaw (encFrag cfg Gen.sigTable_glo Gen.frag_msg1029) (decFrag cfg Gen.frag_msg1029) (· = 12)
      (fun _ => True) (fun a b => b = a) fun _ => True := by
  have hw := WF.wfFrag_of_mem (List.mem_of_find?_eq_some row_1029)
  rw [frag_1029_shape] at hw ⊢
  exact ((text_rowLaw cfg Gen.sigTable_glo).dfs hdr1029 hw).congr
    (fun _ ho => by subst ho; decide) (fun ts => ⟨fun _ => cleanDfs_true hdr1029 ts, fun _ => trivial⟩)
    (fun _ _ h => relDfs_eq h) (fun _ _ => trivial)

theorem rowLaw_1059 (cfg : Cfg) :
    RowLaw (encFrag cfg Gen.sigTable_glo Gen.frag_msg1059) (decFrag cfg Gen.frag_msg1059) (· = 12)
      (CleanDfs hdr1059 (CleanBias p1059)) (RelDfs (RelBias p1059)) (QDfs (QBias p1059)) := by
  have hw := WF.wfFrag_of_mem (List.mem_of_find?_eq_some row_1059)
  rw [frag_1059_shape] at hw ⊢
  exact ((bias_rowLaw cfg Gen.sigTable_glo (C16.params_ok_1059 390) (encFrag_bias1059 cfg _ 390 _)
    (decFrag_bias1059 cfg 390 _)).dfs hdr1059 hw).congr (hP := fun _ _ => trivial)

theorem rowLaw_1065 (cfg : Cfg) :
    RowLaw (encFrag cfg Gen.sigTable_glo Gen.frag_msg1065) (decFrag cfg Gen.frag_msg1065) (· = 12)
      (CleanDfs hdr1065 (CleanBias p1065)) (RelDfs (RelBias p1065)) (QDfs (QBias p1065)) := by
  have hw := WF.wfFrag_of_mem (List.mem_of_find?_eq_some row_1065)
  rw [frag_1065_shape] at hw ⊢
  exact ((bias_rowLaw cfg Gen.sigTable_glo (C16.params_ok_1065 390) (encFrag_bias1065 cfg _ 390 _)
    (decFrag_bias1065 cfg 390 _)).dfs hdr1065 hw).congr (hP := fun _ _ => trivial)

theorem rowLaw_1230 (cfg : Cfg) :
    RowLaw (encFrag cfg Gen.sigTable_glo Gen.frag_msg1230) (decFrag cfg Gen.frag_msg1230) (· = 12)
      (CleanDfs hdr1230 Clean1230) (fun a b => b = a) fun _ => True := by
  have hw := WF.wfFrag_of_mem (List.mem_of_find?_eq_some row_1230)
  rw [frag_1230_shape] at hw ⊢
  exact ((bias1230_rowLaw cfg C16.glo1230_ok).dfs hdr1230 hw).congr
    (hP := fun _ _ => trivial) (hR := fun _ _ h => relDfs_eq h) (hQ := fun _ _ => trivial)

theorem law_1029 (cfg : Cfg) :
    LawX (encFrag cfg Gen.sigTable_glo Gen.frag_msg1029) (decFrag cfg Gen.frag_msg1029) (· = 12)
      (fun _ => True) (fun a b => b = a) ∧ Local (decFrag cfg Gen.frag_msg1029) :=
  ⟨(rowLaw_1029 cfg).lawX, row_local cfg row_1029⟩

theorem law_1059 (cfg : Cfg) :
    LawX (encFrag cfg Gen.sigTable_glo Gen.frag_msg1059) (decFrag cfg Gen.frag_msg1059) (· = 12)
      (CleanDfs hdr1059 (CleanBias p1059)) (RelDfs (RelBias p1059)) ∧
    Local (decFrag cfg Gen.frag_msg1059) :=
  ⟨(rowLaw_1059 cfg).lawX, row_local cfg row_1059⟩

theorem law_1065 (cfg : Cfg) :
    LawX (encFrag cfg Gen.sigTable_glo Gen.frag_msg1065) (decFrag cfg Gen.frag_msg1065) (· = 12)
      (CleanDfs hdr1065 (CleanBias p1065)) (RelDfs (RelBias p1065)) ∧
    Local (decFrag cfg Gen.frag_msg1065) :=
  ⟨(rowLaw_1065 cfg).lawX, row_local cfg row_1065⟩

theorem law_1230 (cfg : Cfg) :
    LawX (encFrag cfg Gen.sigTable_glo Gen.frag_msg1230) (decFrag cfg Gen.frag_msg1230) (· = 12)
      (CleanDfs hdr1230 Clean1230) (fun a b => b = a) ∧
    Local (decFrag cfg Gen.frag_msg1230) :=
  ⟨(rowLaw_1230 cfg).lawX, row_local cfg row_1230⟩

theorem row_cases (n : Nat) (row : MsgRow) (hrow : findRow Gen.messageTable n = some row) :
    (lawKind row.frag = true ∧ n ≠ 1059 ∧ n ≠ 1065 ∧ n ≠ 1230) ∨
    (n = 1029 ∧ row.frag = Gen.frag_msg1029) ∨ (n = 1059 ∧ row.frag = Gen.frag_msg1059) ∨
    (n = 1065 ∧ row.frag = Gen.frag_msg1065) ∨ (n = 1230 ∧ row.frag = Gen.frag_msg1230) := by
  by_cases h : n = 1029 ∨ n = 1059 ∨ n = 1065 ∨ n = 1230
  · rcases h with rfl | rfl | rfl | rfl
    · cases row_1029.symm.trans hrow; exact .inr (.inl ⟨rfl, rfl⟩)
    · cases row_1059.symm.trans hrow; exact .inr (.inr (.inl ⟨rfl, rfl⟩))
    · cases row_1065.symm.trans hrow; exact .inr (.inr (.inr (.inl ⟨rfl, rfl⟩)))
    · cases row_1230.symm.trans hrow; exact .inr (.inr (.inr (.inr ⟨rfl, rfl⟩)))
  · refine .inl ⟨?_, fun e => h (.inr (.inl e)), fun e => h (.inr (.inr (.inl e))),
      fun e => h (.inr (.inr (.inr e)))⟩
    by_contra hs
    have hin : row.number ∈ (Gen.messageTable.filter fun r => !lawKind r.frag).map (·.number) :=
      List.mem_map.mpr
        ⟨row, List.mem_filter.mpr ⟨List.mem_of_find?_eq_some hrow, by simpa using hs⟩, rfl⟩
    rw [not_lawKind_numbers, findRow_number hrow] at hin
    exact h (by simpa using hin)

/-- the law of every row; `12`: a row starts after the 12-bit message number -/
theorem row_facts (cfg : Cfg) (n : Nat) (row : MsgRow) (hrow : findRow Gen.messageTable n = some row) :
    RowLaw (encFrag cfg Gen.sigTable_glo row.frag) (decFrag cfg row.frag) (· = 12) (Clean n) (Regroup n) (QRow n) := by
  rcases row_cases n row hrow with
    ⟨hs, h1, h2, h3⟩ | ⟨rfl, hf⟩ | ⟨rfl, hf⟩ | ⟨rfl, hf⟩ | ⟨rfl, hf⟩
  · refine (rowLaw_lawKind cfg (List.mem_of_find?_eq_some hrow) hs).congr (fun _ _ => trivial)
      (fun ts => ⟨fun _ => trivial, fun _ => clean_trivial n ts ⟨h1, h2, h3⟩⟩) (fun a b h => ?_)
      (fun _ _ => ⟨fun e => absurd e h1, fun e => absurd e h2⟩)
    unfold Regroup
    rw [if_neg h1, if_neg h2]
    exact h.symm
  · exact hf ▸ (rowLaw_1029 cfg).congr (hC := fun _ => by simp [Clean])
      (hR := fun _ _ h => by simpa [Regroup] using h) (hQ := fun _ _ => ⟨nofun, nofun⟩)
  · exact hf ▸ (rowLaw_1059 cfg).congr (hC := fun _ => by simp [Clean])
      (hR := fun _ _ h => by simpa [Regroup] using h) (hQ := fun _ h => ⟨fun _ => h, nofun⟩)
  · exact hf ▸ (rowLaw_1065 cfg).congr (hC := fun _ => by simp [Clean])
      (hR := fun _ _ h => by simpa [Regroup] using h) (hQ := fun _ h => ⟨nofun, fun _ => h⟩)
  · exact hf ▸ (rowLaw_1230 cfg).congr (hC := fun _ => by simp [Clean])
      (hR := fun _ _ h => by simpa [Regroup] using h) (hQ := fun _ _ => ⟨nofun, nofun⟩)

theorem row_lawX (cfg : Cfg) (n : Nat) (row : MsgRow) (hrow : findRow Gen.messageTable n = some row) :
    LawX (encFrag cfg Gen.sigTable_glo row.frag) (decFrag cfg row.frag) (· = 12) (Clean n) (Regroup n) ∧
    Local (decFrag cfg row.frag) :=
  ⟨(row_facts cfg n row hrow).lawX, row_local cfg hrow⟩

theorem decoded_tokOK (cfg : Cfg) (n : Nat) (row : MsgRow) (hrow : findRow Gen.messageTable n = some row)
    (f0 : Frame) (toks : List Tok) (c' : Cur)
    (h : decFrag cfg row.frag { data := f0.data.map (·.toNat), off := 12 } = .ok (toks, c')) : TokOK toks :=
  ((row_facts cfg n row hrow).decoded _ toks c' (bytes_map_toNat f0.data) h).1

theorem law_normal_form (cfg : Cfg) (n : Nat) (toks : List Tok) (fr : List Nat)
    (hok : TokOK toks) (hcl : Clean n toks)
    (h : (Builder.new.build cfg Gen.messageTable Gen.sigTable_glo (.typed n toks)).2 = .ok fr) :
    ∃ f nt, frameNew (fr.map UInt8.ofNat) = .ok f ∧
      decodeFrame cfg Gen.messageTable f = .ok (.typed n nt) ∧
      (Builder.new.build cfg Gen.messageTable Gen.sigTable_glo (.typed n nt)).2 = .ok fr := by
  obtain ⟨_, _, row, hm, hrow⟩ := build_ok_has_row cfg _ _ _ _ fr h
  injection hm with hn _
  subst hn
  have hr := row_facts cfg _ row hrow
  exact normal_form_of_lawX cfg Gen.messageTable (fun _ h => WF.wfFrag_of_mem h) Gen.sigTable_glo _
    (C09.number_lt_of_findRow hrow) toks fr row hrow hr.lawX rfl (row_local cfg hrow) hok hcl h

/-- the builder after any history of builds -/
abbrev after (cfg : Cfg) (hist : List Msg) : Builder :=
  hist.foldl (fun b x => (b.build cfg Gen.messageTable Gen.sigTable_glo x).1) Builder.new

/-- without `Clean`: a message of the same type; for 1059/1065 its bias list is its own regrouping -/
theorem built_decodes (cfg : Cfg) (n : Nat) (toks : List Tok) (fr : List Nat) (hok : TokOK toks)
    (h : (Builder.new.build cfg Gen.messageTable Gen.sigTable_glo (.typed n toks)).2 = .ok fr) :
    ∃ f nt, frameNew (fr.map UInt8.ofNat) = .ok f ∧
      decodeFrame cfg Gen.messageTable f = .ok (.typed n nt) ∧ QRow n nt := by
  obtain ⟨_, _, row, hm, hrow⟩ := build_ok_has_row cfg _ _ _ _ fr h
  cases hm
  have hr := row_facts cfg _ row hrow
  exact decodes_of_weak cfg Gen.messageTable (fun _ h => WF.wfFrag_of_mem h) Gen.sigTable_glo _
    (C09.number_lt_of_findRow hrow) toks fr row hrow hr.weak rfl (row_local cfg hrow) hok h

/-- **C01 (1).**  For every message type: whatever the builder did before, if it accepts the message
value `toks` of type `n` (byte strings being bytes: `TokOK`), the frame passes the frame check and
decodes to a message of the same type — never to `corrupt`, `empty` or `notSupported`.  No clean-input
hypothesis: a 1059/1065 list with unrecognised signals decodes to the list without them, a 1230 list with
a repeated signal to one entry per signal. -/
theorem build_decodes_same_type (cfg : Cfg) (hist : List Msg) (n : Nat) (toks : List Tok)
    (fr : List Nat) (hok : TokOK toks)
    (h : ((after cfg hist).build cfg Gen.messageTable Gen.sigTable_glo (.typed n toks)).2 = .ok fr) :
    ∃ f nt, frameNew (fr.map UInt8.ofNat) = .ok f ∧
      decodeFrame cfg Gen.messageTable f = .ok (.typed n nt) := by
  rw [C12.build_history_independent] at h
  obtain ⟨f, nt, h1, h2, _⟩ := built_decodes cfg n toks fr hok h
  exact ⟨f, nt, h1, h2⟩

/-- **C01 (2).**  For every message type: re-encoding the decoded message reproduces the frame byte
for byte, from any builder state, provided the input was clean (`Clean n toks`: recognised signals in
the 1059/1065 lists, no repeated signal in the 1230 list; no condition for any other type). -/
theorem rebuild_reproduces (cfg : Cfg) (hist hist' : List Msg) (n : Nat) (toks nt : List Tok)
    (fr : List Nat) (f : Frame) (hok : TokOK toks) (hcl : Clean n toks)
    (h : ((after cfg hist).build cfg Gen.messageTable Gen.sigTable_glo (.typed n toks)).2 = .ok fr)
    (hf : frameNew (fr.map UInt8.ofNat) = .ok f)
    (hd : decodeFrame cfg Gen.messageTable f = .ok (.typed n nt)) :
    ((after cfg hist').build cfg Gen.messageTable Gen.sigTable_glo (.typed n nt)).2 = .ok fr := by
  rw [C12.build_history_independent] at h ⊢
  obtain ⟨f', nt', h1, h2, h3⟩ := law_normal_form cfg n toks fr hok hcl h
  cases hf.symm.trans h1
  cases hd.symm.trans h2
  exact h3

/-- **C01 (4)** (stated before (3), which uses it).  For every message type: a message obtained by
decoding ANY frame (built by this encoder or not, canonical or not) is, whenever the encoder accepts it, a fixed point: decoding its
encoding returns `toks'` with `Regroup n toks toks'`, i.e. the same message, except that the 1059/1065
bias entries come back regrouped by ascending satellite (`regroup_spec`). -/
theorem decoded_is_fixpoint (cfg : Cfg) (hist : List Msg) (f0 : Frame) (n : Nat) (toks : List Tok)
    (fr : List Nat)
    (hd0 : decodeFrame cfg Gen.messageTable f0 = .ok (.typed n toks))
    (h : ((after cfg hist).build cfg Gen.messageTable Gen.sigTable_glo (.typed n toks)).2 = .ok fr) :
    ∃ f toks', frameNew (fr.map UInt8.ofNat) = .ok f ∧
      decodeFrame cfg Gen.messageTable f = .ok (.typed n toks') ∧ Regroup n toks toks' := by
  rw [C12.build_history_independent] at h
  obtain ⟨_, row, c', hrow, hdec⟩ := decodeFrame_typed_iff.mp hd0
  have hr := row_facts cfg n row hrow
  obtain ⟨hok, hcl⟩ := hr.decoded _ toks c' (bytes_map_toNat f0.data) hdec
  exact fixpoint_of_lawX cfg Gen.messageTable (fun _ h => WF.wfFrag_of_mem h)
    Gen.sigTable_glo n (C09.number_lt_of_findRow hrow) toks fr row hrow hr.lawX rfl (row_local cfg hrow)
    hok hcl
    ⟨_, _, hdec⟩ h

/-- `Regroup` spelled out: equality for every type but 1059/1065; for those, a common header followed by
the bias list, which comes back as `C16.grouped p id es` (satellites ascending, original order inside each
satellite — a permutation of `es`, `C16.grouped_perm`) -/
theorem regroup_spec (n : Nat) (toks toks' : List Tok) (h : Regroup n toks toks') :
    (n ≠ 1059 ∧ n ≠ 1065 ∧ toks' = toks) ∨
    (n = 1059 ∧ ∃ hdr es, toks = hdr ++ biasToks true es ∧
      toks' = hdr ++ biasToks true (C16.grouped p1059 id es)) ∨
    (n = 1065 ∧ ∃ hdr es, toks = hdr ++ biasToks true es ∧
      toks' = hdr ++ biasToks true (C16.grouped p1065 id es)) := by
  unfold Regroup at h
  by_cases h1 : n = 1059
  · rw [if_pos h1] at h
    obtain ⟨hdr, tl, tl', _, rfl, rfl, es, rfl, rfl⟩ := h
    exact Or.inr (Or.inl ⟨h1, hdr, es, rfl, rfl⟩)
  · rw [if_neg h1] at h
    by_cases h2 : n = 1065
    · rw [if_pos h2] at h
      obtain ⟨hdr, tl, tl', _, rfl, rfl, es, rfl, rfl⟩ := h
      exact Or.inr (Or.inr ⟨h2, hdr, es, rfl, rfl⟩)
    · rw [if_neg h2] at h
      exact Or.inl ⟨h1, h2, h⟩

/-- **C01 (3).**  For every message type, clean input or not: decoding the re-encoded message gives
the same message again.  (By (4), since the first decode `nt` is a decoded message; for 1059/1065
additionally because a frame written by the encoder decodes to a bias list that is already grouped by
ascending satellite, `built_decodes`.) -/
theorem twice_decoded_equal (cfg : Cfg) (hist hist' : List Msg) (n : Nat) (toks nt : List Tok)
    (fr fr' : List Nat) (f f' : Frame) (hok : TokOK toks)
    (h : ((after cfg hist).build cfg Gen.messageTable Gen.sigTable_glo (.typed n toks)).2 = .ok fr)
    (hf : frameNew (fr.map UInt8.ofNat) = .ok f)
    (hd : decodeFrame cfg Gen.messageTable f = .ok (.typed n nt))
    (h' : ((after cfg hist').build cfg Gen.messageTable Gen.sigTable_glo (.typed n nt)).2 = .ok fr')
    (hf' : frameNew (fr'.map UInt8.ofNat) = .ok f') :
    decodeFrame cfg Gen.messageTable f' = .ok (.typed n nt) := by
  obtain ⟨f'', toks', hf'', hd'', hR⟩ := decoded_is_fixpoint cfg hist' f n nt fr' hd h'
  cases hf'.symm.trans hf''
  rw [C12.build_history_independent] at h
  obtain ⟨f1, nt1, hf1, hd1, q1, q2⟩ := built_decodes cfg n toks fr hok h
  cases hf.symm.trans hf1
  cases hd.symm.trans hd1
  have : toks' = nt := by
    unfold Regroup at hR
    by_cases h1 : n = 1059
    · rw [if_pos h1] at hR
      exact regroup_fixed p1059 (q1 h1) hR
    · rw [if_neg h1] at hR
      by_cases h2 : n = 1065
      · rw [if_pos h2] at hR
        exact regroup_fixed p1065 (q2 h2) hR
      · rw [if_neg h2] at hR
        exact hR
  rwa [this] at hd''

/-! ### The hypotheses are satisfiable -/

/-- a 1005 message value: station 2003, ECEF (1.0, 0.0, -1.0) m -/
def ex1005 : List Tok :=
  [.int 2003, .int 0, .int 1, .int 1, .int 0, .int 0, .flt 0x3FF0000000000000, .int 0, .int 0, .flt 0,
   .int 1, .flt 0xBFF0000000000000]

/-- a 1001 message value with one satellite, pseudorange 1.0 m, phase-range difference absent -/
def ex1001 : List Tok :=
  [.int 5, .int 1000, .int 0, .count 1, .int 0, .int 3,
   .int 7, .int 0, .present, .flt 0x3FF0000000000000, .absent, .int 9]

example : ∀ chk : Bool,
    (Builder.new.build ⟨chk⟩ Gen.messageTable Gen.sigTable_glo (.typed 1005 ex1005)).2.isOk = true := by
  decide +kernel

example : ∀ chk : Bool,
    (Builder.new.build ⟨chk⟩ Gen.messageTable Gen.sigTable_glo (.typed 1001 ex1001)).2.isOk = true := by
  decide +kernel

example : TokOK ex1005 ∧ TokOK ex1001 := by
  constructor <;> (intro t ht; revert t ht; decide)

example : Clean 1005 ex1005 := clean_trivial _ _ (by decide)

example : Clean 1001 ex1001 := clean_trivial _ _ (by decide)

/-- a 1071 (GPS MSM1) message value: satellites 5 and 2 listed out of order, cells (5,1C) (2,1C) (5,2W) -/
def ex1071 : List Tok :=
  [.int 7, .int 1000, .int 0, .absent, .int 0, .int 0, .int 0, .int 0, .int 0,
   .count 2, .int 5, .flt 0x3FE0000000000000, .int 2, .flt 0,
   .count 3, .int 5, .sig 1 67, .absent, .int 2, .sig 1 67, .present, .flt 0, .int 5, .sig 2 87, .absent]

example : ∀ chk : Bool,
    (Builder.new.build ⟨chk⟩ Gen.messageTable Gen.sigTable_glo (.typed 1071 ex1071)).2.isOk = true := by
  decide +kernel

example : Clean 1071 ex1071 := clean_trivial _ _ (by decide)

/-- a 1029 message value: station 5, MJD 60000, 1000 s, text "Hé" (3 bytes, 2 characters) -/
def ex1029 : List Tok := [.int 5, .int 60000, .int 1000, .bytes [0x48, 0xC3, 0xA9]]

example : ∀ chk : Bool,
    (Builder.new.build ⟨chk⟩ Gen.messageTable Gen.sigTable_glo (.typed 1029 ex1029)).2.isOk = true := by
  decide +kernel

example : TokOK ex1029 := by intro t ht; revert t ht; decide

example : Clean 1029 ex1029 := clean_trivial _ _ (by decide)

/-- the bias entries of the 1059 example: satellites 5 and 2 out of order, recognised GPS signals 1C, 2W, 2C -/
def exBias1059 : List Bias.Entry :=
  [⟨5, 1, 67, 0x3FC00000⟩, ⟨2, 2, 87, 0xBFC00000⟩, ⟨5, 2, 67, 0x3F000000⟩]

def ex1059 : List Tok :=
  [.int 1000, .int 2, .int 0, .int 1, .int 100, .int 3] ++ biasToks true exBias1059

example : ∀ chk : Bool,
    (Builder.new.build ⟨chk⟩ Gen.messageTable Gen.sigTable_glo (.typed 1059 ex1059)).2.isOk = true := by
  decide +kernel

example : TokOK ex1059 := by intro t ht; revert t ht; decide

/-- every signal is in the 1059 table -/
example : Clean 1059 ex1059 := by
  unfold Clean
  rw [if_pos rfl]
  exact cleanDfs_of_takeFields _ hdr1059 ex1059 _ (biasToks true exBias1059) (by rfl)
    (cleanBias_biasToks p1059 exBias1059 (by decide))

/-- a 1230 message value: biases for 2P and 1C, listed out of mask order -/
def exBias1230 : List Bias.Entry := [⟨0, 2, 80, 0x3FC00000⟩, ⟨0, 1, 67, 0xBFC00000⟩]
def ex1230 : List Tok := [.int 7, .int 1] ++ biasToks false exBias1230

example : ∀ chk : Bool,
    (Builder.new.build ⟨chk⟩ Gen.messageTable Gen.sigTable_glo (.typed 1230 ex1230)).2.isOk = true := by
  decide +kernel

example : Clean 1230 ex1230 := by
  unfold Clean
  rw [if_neg (by decide), if_neg (by decide), if_pos rfl]
  exact cleanDfs_of_takeFields _ hdr1230 ex1230 _ (biasToks false exBias1230) (by rfl)
    (clean1230_biasToks exBias1230 (by decide) (by decide))

/-- `Regroup` on the 1059 example: satellite 2 first, then the two entries of satellite 5 in their order -/
example : C16.grouped p1059 id exBias1059 =
    [⟨2, 2, 87, 0xBFC00000⟩, ⟨5, 1, 67, 0x3FC00000⟩, ⟨5, 2, 67, 0x3F000000⟩] := by decide +kernel

end Rtcm.C01
