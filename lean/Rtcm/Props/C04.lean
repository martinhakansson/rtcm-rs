import Rtcm.Proofs.CrcErr
import Rtcm.Proofs.MkFrame
import Rtcm.Proofs.Scan
/-!
# C04  CRC-24Q detects single, double, odd-count and burst-≤24 errors; the scanner drops them

Model: `Rtcm.frameNew` (`MessageFrame::new`), `Rtcm.scan` (`next_msg_frame`), `Rtcm.crc24q`
(bit-serial remainder, generator 0x1864CFB).

A *valid frame* is a byte string `f` with `frameNew f = .ok x` and `f.length = x.frameLen`
(nothing follows the frame), hence `f.length = lenField f + 6 ≤ 1029`.

An *error pattern* is a bit string `e` with one bit per bit of `f` (bit 0 is the most significant
bit of byte 0); `applyErr f e` flips exactly the bits of `f` at which `e` is `true`
(`applyErr_flips`). `Admissible f.length e` says that `e` has `8 * f.length` bits and leaves the
preamble (bits 0..7) and the 10-bit length field (bits 14..23) alone, so that it touches only the
six reserved header bits (8..13), the payload and the checksum (`admissible_iff`).

The number of flipped bits is `e.count true`. A burst is a non-zero pattern whose set bits all lie
in a window `[k, k+24)`.
-/
namespace Rtcm.C04

/-- Meaning of `applyErr`: same length, and bit `j` (LSB = 0) of byte `i` is flipped exactly when
the pattern is set at bit position `8*i + (7-j)` of the frame. -/
theorem applyErr_flips (f : List UInt8) (e : List Bool) (he : e.length = 8 * f.length) :
    (applyErr f e).length = f.length ∧
    bitsOfBytes (applyErr f e) = xorBits (bitsOfBytes f) e ∧
    ∀ i j, j < 8 →
      (byteAt (applyErr f e) i).testBit j
        = ((byteAt f i).testBit j != e.getD (8 * i + (7 - j)) false) :=
  ⟨length_applyErr f e he, bitsOfBytes_applyErr f e he,
   fun i j hj => testBit_byteAt_applyErr f e he i j hj⟩

/-- Admissibility in the words of the property: every flipped position is one of the six
reserved bits of byte 1 or lies in payload or checksum. -/
theorem admissible_iff (n : Nat) (e : List Bool) :
    Admissible n e ↔
      (e.length = 8 * n ∧ ∀ p, e.getD p false = true → (8 ≤ p ∧ p < 14) ∨ 24 ≤ p) := by
  unfold Admissible
  constructor
  · rintro ⟨hl, h⟩
    refine ⟨hl, fun p hp => ?_⟩
    by_cases h24 : p < 24
    · by_cases hc : p < 8 ∨ 14 ≤ p
      · rw [h p h24 hc] at hp; cases hp
      · omega
    · omega
  · rintro ⟨hl, h⟩
    refine ⟨hl, fun p h24 hc => ?_⟩
    cases hv : e.getD p false with
    | false => rfl
    | true => have := h p hv; omega

/-- An admissible alteration keeps length, preamble byte and length field. -/
theorem header_intact (f : List UInt8) (e : List Bool) (ha : Admissible f.length e) :
    (applyErr f e).length = f.length ∧ byteAt (applyErr f e) 0 = byteAt f 0 ∧
      lenField (applyErr f e) = lenField f :=
  ⟨length_applyErr f e ha.1, byteAt0_applyErr f e ha, lenField_applyErr f e ha⟩

/-- The altered frame is accepted iff the error pattern, read as a polynomial, is a multiple of
the generator; otherwise it is rejected as not valid (it is never "incomplete"). -/
theorem altered_accepted_iff (f : List UInt8) (x : Frame) (e : List Bool)
    (hv : frameNew f = .ok x) (hl : f.length = x.frameLen) (ha : Admissible f.length e) :
    ((∃ y, frameNew (applyErr f e) = .ok y) ↔ crcRem 0 e = 0) ∧
    (frameNew (applyErr f e) = .error .notValid ↔ crcRem 0 e ≠ 0) :=
  applyErr_outcome ⟨hv, hl⟩ e ha

/-- Any odd number of flipped bits is detected (the generator is divisible by x + 1). -/
theorem odd_flips_rejected (f : List UInt8) (x : Frame) (e : List Bool)
    (hv : frameNew f = .ok x) (hl : f.length = x.frameLen) (ha : Admissible f.length e)
    (hodd : e.count true % 2 = 1) :
    frameNew (applyErr f e) = .error .notValid :=
  (applyErr_outcome ⟨hv, hl⟩ e ha).2.mpr (crcRem_odd_ne_zero e hodd)

/-- **The code's minimum distance over the protected region is at least 4**: every admissible
alteration of a valid frame in one, two or three bit positions (reserved bits, payload, checksum, in
any combination and at any distance from each other) is rejected as not valid: a multiple of the
generator has even weight, and `x^k + 1` is none for `k ≤ 8400` (a frame has at most 8232 bits). -/
theorem weight_le3_rejected (f : List UInt8) (x : Frame) (e : List Bool)
    (hv : frameNew f = .ok x) (hl : f.length = x.frameLen) (ha : Admissible f.length e)
    (hw : 1 ≤ e.count true ∧ e.count true ≤ 3) :
    frameNew (applyErr f e) = .error .notValid := by
  refine (applyErr_outcome ⟨hv, hl⟩ e ha).2.mpr fun hz => ?_
  have hb := (valid_facts ⟨hv, hl⟩).2.2.1
  have := codeword_weight_ge4 e (by rw [ha.1]; omega) hz
  omega

/-- One flipped bit anywhere in reserved bits, payload or checksum: `MessageFrame::new` answers
`NotValid` (weight 1 is odd). -/
theorem single_flip_rejected (f : List UInt8) (x : Frame) (e : List Bool)
    (hv : frameNew f = .ok x) (hl : f.length = x.frameLen) (ha : Admissible f.length e)
    (hone : e.count true = 1) :
    frameNew (applyErr f e) = .error .notValid :=
  odd_flips_rejected f x e hv hl ha (by rw [hone])

/-- Any two flipped bits are detected (x^k ≠ 1 modulo the generator for 1 ≤ k ≤ 8400, and a frame
has at most 8232 bits). -/
theorem double_flip_rejected (f : List UInt8) (x : Frame) (e : List Bool)
    (hv : frameNew f = .ok x) (hl : f.length = x.frameLen) (ha : Admissible f.length e)
    (htwo : e.count true = 2) :
    frameNew (applyErr f e) = .error .notValid :=
  weight_le3_rejected f x e hv hl ha (by omega)

/-- Any burst of at most 24 bits is detected: at least one bit is flipped and all flipped bits lie
in a window `[k, k+24)`. -/
theorem burst_le24_rejected (f : List UInt8) (x : Frame) (e : List Bool)
    (hv : frameNew f = .ok x) (hl : f.length = x.frameLen) (ha : Admissible f.length e)
    (hne : true ∈ e) (k : Nat)
    (hwin : ∀ p, p < e.length → e.getD p false = true → k ≤ p ∧ p < k + 24) :
    frameNew (applyErr f e) = .error .notValid := by
  refine (applyErr_outcome ⟨hv, hl⟩ e ha).2.mpr (crcRem_window_ne_zero e k hne fun p hp => ?_)
  by_cases hpl : p < e.length
  · exact hwin p hpl hp
  · rw [List.getD_eq_getElem?_getD, List.getElem?_eq_none (by omega)] at hp
    cases hp

/-- Wherever the rejected bytes sit in a buffer, no delivered frame consists of them. -/
theorem never_delivered_from_any_buffer (f' : List UInt8) (hrej : frameNew f' = .error .notValid)
    (buf : List UInt8) (c : Nat) (g : Frame) (hs : scan buf = (c, some g)) :
    g.frameData ≠ f' := by
  intro he
  have := scan_delivers_valid buf c g hs
  rw [he, hrej] at this
  cases this

/-- A rejected candidate `f'` at the head of the buffer is not delivered, whatever follows it:
if the scanner delivers a frame at all, that frame starts at an index `i > 0` (the scanner has
moved past the first byte of `f'`), and its bytes are not `f'`. -/
theorem scanner_never_delivers_it (f' : List UInt8) (hrej : frameNew f' = .error .notValid)
    (tail : List UInt8) (c : Nat) (g : Frame) (hs : scan (f' ++ tail) = (c, some g)) :
    (∃ i, 0 < i ∧ c = i + g.frameLen ∧ frameNew ((f' ++ tail).drop i) = .ok g) ∧
      g.frameData ≠ f' := by
  constructor
  · obtain ⟨i, _, _, hok, hc, _⟩ := scan_some _ c g hs
    refine ⟨i, ?_, hc, hok⟩
    cases i with
    | zero =>
      rw [List.drop_zero, frameNew_append_notValid f' tail hrej] at hok
      cases hok
    | succ i => omega
  · exact never_delivered_from_any_buffer f' hrej _ c g hs

/-- C04 in one statement: an admissible alteration of a valid frame by one bit, two bits, an odd
number of bits or a burst of at most 24 bits is rejected as not valid, the scanner run on it (with
anything appended) does not deliver a frame starting at its first byte, and no scan of any buffer
delivers it. -/
theorem altered_frame_rejected_and_dropped (f : List UInt8) (x : Frame) (e : List Bool)
    (hv : frameNew f = .ok x) (hl : f.length = x.frameLen) (ha : Admissible f.length e)
    (hshape : e.count true = 1 ∨ e.count true = 2 ∨ e.count true % 2 = 1 ∨
      (true ∈ e ∧ ∃ k, ∀ p, p < e.length → e.getD p false = true → k ≤ p ∧ p < k + 24)) :
    frameNew (applyErr f e) = .error .notValid ∧
    (∀ tail c g, scan (applyErr f e ++ tail) = (c, some g) →
      ∃ i, 0 < i ∧ c = i + g.frameLen ∧ frameNew ((applyErr f e ++ tail).drop i) = .ok g) ∧
    (∀ buf c g, scan buf = (c, some g) → g.frameData ≠ applyErr f e) := by
  have hrej : frameNew (applyErr f e) = .error .notValid := by
    rcases hshape with h | h | h | ⟨h, k, hk⟩
    · exact single_flip_rejected f x e hv hl ha h
    · exact double_flip_rejected f x e hv hl ha h
    · exact odd_flips_rejected f x e hv hl ha h
    · exact burst_le24_rejected f x e hv hl ha h k hk
  exact ⟨hrej,
    fun tail c g hs => (scanner_never_delivers_it _ hrej tail c g hs).1,
    fun buf c g hs => never_delivered_from_any_buffer _ hrej buf c g hs⟩

/-! Non-vacuity on the 9-byte frame `mkFrame 0 [0x3e, 0xd0, 0x00]` (72 bits). `flipAt 72 ps` is
the pattern set exactly at the positions `ps`. -/

/-- the frame is valid in the sense of the hypotheses -/
example : frameNew (mkFrame 0 [0x3e, 0xd0, 0x00]) = .ok (mkFrameResult 0 [0x3e, 0xd0, 0x00]) ∧
    (mkFrame 0 [0x3e, 0xd0, 0x00]).length = (mkFrameResult 0 [0x3e, 0xd0, 0x00]).frameLen :=
  ⟨frameNew_mkFrame_nil 0 _ (by decide), rfl⟩

/-- one reserved bit: admissible, weight 1, and the model evaluates to the predicted verdict -/
example : Admissible 9 (flipAt 72 [8]) ∧ (flipAt 72 [8]).count true = 1 ∧
    frameNew (applyErr (mkFrame 0 [0x3e, 0xd0, 0x00]) (flipAt 72 [8])) = .error .notValid := by
  decide +kernel

/-- two bits, one in the payload and the last checksum bit -/
example : Admissible 9 (flipAt 72 [30, 71]) ∧ (flipAt 72 [30, 71]).count true = 2 ∧
    frameNew (applyErr (mkFrame 0 [0x3e, 0xd0, 0x00]) (flipAt 72 [30, 71])) = .error .notValid := by
  decide +kernel

/-- a 24-bit burst over payload and checksum (four bits set, window [40, 64)): the hypotheses of
`burst_le24_rejected` can be met -/
example : frameNew (applyErr (mkFrame 0 [0x3e, 0xd0, 0x00]) (flipAt 72 [40, 45, 50, 63]))
    = .error .notValid :=
  burst_le24_rejected (mkFrame 0 [0x3e, 0xd0, 0x00]) (mkFrameResult 0 [0x3e, 0xd0, 0x00])
    (flipAt 72 [40, 45, 50, 63]) (frameNew_mkFrame_nil 0 _ (by decide)) rfl (by decide +kernel)
    (by decide +kernel) 40 fun p _ hp => by
      rw [getD_flipAt] at hp
      simp at hp
      omega

/-- the scanner on the frame with one reserved bit flipped: all 9 bytes consumed, nothing
delivered -/
example : scan (applyErr (mkFrame 0 [0x3e, 0xd0, 0x00]) (flipAt 72 [8])) = (9, none) := by
  decide +kernel

/-- a flip inside the length field is outside the property -/
example : ¬ Admissible 9 (flipAt 72 [20]) := by decide +kernel

/-- The bound 24 is sharp: the generator itself, a 25-bit burst of weight 14 laid over bits 24..48
(the payload and the first checksum bit), is admissible, has zero remainder, and the altered frame is accepted. -/
example :
    let e := flipAt 72 [24, 25, 30, 31, 34, 37, 38, 41, 42, 43, 44, 45, 47, 48]
    Admissible 9 e ∧ e.count true = 14 ∧ crcRem 0 e = 0 ∧
      (match frameNew (applyErr (mkFrame 0 [0x3e, 0xd0, 0x00]) e) with
        | .ok _ => true | .error _ => false) = true := by
  decide +kernel

/-- The same as a distance statement. Let `f` be a valid frame and `applyErr f e` a *different* byte
string (`true ∈ e`) of the same length with the same preamble byte and the same length field
(`Admissible`: the two differ only in reserved bits, payload and checksum). If `applyErr f e` is
accepted as well, the two frames differ in at least 4 bit positions. -/
theorem min_distance_ge4 (f : List UInt8) (x : Frame) (e : List Bool)
    (hv : frameNew f = .ok x) (hl : f.length = x.frameLen) (ha : Admissible f.length e)
    (hne : true ∈ e) (hacc : ∃ y, frameNew (applyErr f e) = .ok y) :
    4 ≤ e.count true := by
  have hpos : 0 < e.count true := List.count_pos_iff.mpr hne
  apply Nat.le_of_not_lt
  intro hlt
  have hrej := weight_le3_rejected f x e hv hl ha ⟨hpos, by omega⟩
  obtain ⟨y, hy⟩ := hacc
  rw [hrej] at hy
  cases hy

/-- three bits (reserved, payload, checksum) on the 9-byte frame: hypotheses of
`weight_le3_rejected` hold and the model evaluates to the predicted verdict -/
example : Admissible 9 (flipAt 72 [9, 30, 71]) ∧
    (1 ≤ (flipAt 72 [9, 30, 71]).count true ∧ (flipAt 72 [9, 30, 71]).count true ≤ 3) ∧
    frameNew (applyErr (mkFrame 0 [0x3e, 0xd0, 0x00]) (flipAt 72 [9, 30, 71])) = .error .notValid := by
  decide +kernel

/-- `min_distance_ge4` is not vacuous: the generator laid over bits 24..48 (weight 14) is admissible,
non-zero, and the altered frame is accepted; the theorem then yields `4 ≤ 14`. -/
example :
    4 ≤ (flipAt 72 [24, 25, 30, 31, 34, 37, 38, 41, 42, 43, 44, 45, 47, 48]).count true := by
  have key :
      let e := flipAt 72 [24, 25, 30, 31, 34, 37, 38, 41, 42, 43, 44, 45, 47, 48]
      Admissible 9 e ∧ true ∈ e ∧
        (match frameNew (applyErr (mkFrame 0 [0x3e, 0xd0, 0x00]) e) with
          | .ok _ => true | .error _ => false) = true := by decide +kernel
  obtain ⟨ha, hne, h⟩ := key
  exact min_distance_ge4 (mkFrame 0 [0x3e, 0xd0, 0x00]) (mkFrameResult 0 [0x3e, 0xd0, 0x00]) _
    (frameNew_mkFrame_nil 0 _ (by decide)) rfl ha hne
    (by
      split at h
      · next y hy => exact ⟨y, hy⟩
      · cases h)

/-- **Minimum distance, stated on two frames.** Two distinct valid frames (each accepted by
`frameNew` with nothing following it) of the same length differ in at least 4 bit positions.
`xorBits (bitsOfBytes f) (bitsOfBytes g)` is `true` exactly at the bit positions at which `f` and `g`
differ (`getD_xorBits`). No hypothesis on where they differ is needed: frames of equal length have the
same preamble and the same length field. -/
theorem distinct_frames_distance_ge4 (f g : List UInt8) (x y : Frame)
    (hf : frameNew f = .ok x) (hfl : f.length = x.frameLen)
    (hg : frameNew g = .ok y) (hgl : g.length = y.frameLen)
    (hlen : f.length = g.length) (hne : f ≠ g) :
    4 ≤ (xorBits (bitsOfBytes f) (bitsOfBytes g)).count true := by
  have vf := valid_facts ⟨hf, hfl⟩
  have vg := valid_facts ⟨hg, hgl⟩
  have hbl : (bitsOfBytes f).length = (bitsOfBytes g).length := by
    rw [length_bitsOfBytes, length_bitsOfBytes, hlen]
  have hz := crcRem_linear 0 0 _ _ hbl
  rw [vf.2.2.2, vg.2.2.2] at hz
  rcases codeword_weight_ge4 _ (by rw [length_xorBits _ _ hbl, length_bitsOfBytes]; omega) hz
    with h | h
  · have := congrArg bytesOfBits (eq_of_count_xorBits _ _ hbl h)
    rw [bytesOfBits_bitsOfBytes, bytesOfBits_bitsOfBytes] at this
    exact absurd this hne
  · exact h

/-- two frames at distance exactly 14 (the generator laid over bits 24..48 of the 9-byte frame):
both valid, same length, distinct -/
example :
    let f := mkFrame 0 [0x3e, 0xd0, 0x00]
    let g := applyErr f (flipAt 72 [24, 25, 30, 31, 34, 37, 38, 41, 42, 43, 44, 45, 47, 48])
    (∃ x, frameNew f = .ok x ∧ f.length = x.frameLen) ∧
    (match frameNew g with | .ok y => decide (g.length = y.frameLen) | .error _ => false) = true ∧
    f.length = g.length ∧ f ≠ g ∧ (xorBits (bitsOfBytes f) (bitsOfBytes g)).count true = 14 := by
  refine ⟨⟨_, frameNew_mkFrame_nil 0 _ (by decide), rfl⟩, ?_⟩
  decide +kernel

end Rtcm.C04
