import Rtcm.Proofs.Law
import Rtcm.Proofs.BuildShape
/-!
A frame built by a fresh builder is determined by the cursor the body encoder left (`built_frame`): it
decodes to whatever the row's (local) decoder reads from that buffer at bit 12, and every token list
the body encoder takes to the same cursor builds the same frame.  The statements about a row whose
layout obeys a law are corollaries.
-/
namespace Rtcm.CodecMsg
open Rtcm.Message Rtcm.Schema Rtcm.Interp Rtcm.WF Rtcm.CodecLaw Rtcm.DecLocal Rtcm.Bits Rtcm.SpecialRows
open Rtcm.CurLaws (AgreeOn)

theorem map_toNat_ofNat (P : List Nat) (hP : ∀ x ∈ P, x < 256) :
    (P.map UInt8.ofNat).map (·.toNat) = P := by
  rw [List.map_map]
  conv => rhs; rw [← List.map_id P]
  apply List.map_congr_left
  intro x hx
  have := hP x hx
  simp only [Function.comp, UInt8.toNat_ofNat', id]
  omega

theorem agree_take (D : List Nat) (L lo hi : Nat) (h : hi ≤ 8 * L) : AgreeOn (D.take L) D lo hi := by
  intro g _ hg
  unfold bitAt
  simp only [List.getD_eq_getElem?_getD, List.getElem?_take]
  rw [if_pos (by omega)]

theorem decode_built (cfg : Cfg) (tbl : List MsgRow) (n : Nat) (row : MsgRow) (c : Cur) (nt : List Tok)
    (hrow : findRow tbl n = some row)
    (hg : ∀ d ∈ c.data, d < 256) (hlen : c.data.length = 1023) (hlo : 12 ≤ c.off) (hhi : c.off ≤ 8184)
    (hnum : (c.data.getD 0 0 <<< 4) ||| (c.data.getD 1 0 >>> 4) = n)
    (hloc : Local (decFrag cfg row.frag)) (c'' : Cur) (hstop : c''.off ≤ c.off)
    (hdec : decFrag cfg row.frag ⟨c.data, 12⟩ = .ok (nt, c'')) :
    ∃ f, frameNew ((frameOf (payLen c) (c.data.take (payLen c))).map UInt8.ofNat) = .ok f ∧
      decodeFrame cfg tbl f = .ok (.typed n nt) := by
  obtain ⟨-, hL, hc⟩ := payLen_bounds hlo hhi
  have hPl : (c.data.take (payLen c)).length = payLen c := by rw [List.length_take]; omega
  have hPb : ∀ x ∈ c.data.take (payLen c), x < 256 := fun x hx => hg x (List.mem_of_mem_take hx)
  obtain ⟨hf, hn⟩ := frameNew_frameOf hg hlen hlo hhi
  refine ⟨_, hf,
    decodeFrame_typed_iff.mpr ⟨hnum ▸ hn, row, ⟨c.data.take (payLen c), c''.off⟩, hrow, ?_⟩⟩
  · show decFrag cfg row.frag ⟨((c.data.take (payLen c)).map UInt8.ofNat).map (·.toNat), 12⟩ = _
    rw [map_toNat_ofNat _ hPb]
    obtain ⟨_, _, loc⟩ := hloc c.data 12 nt c'' hdec
    exact loc (c.data.take (payLen c)) hg hPb (by rw [hPl]; omega)
      (agree_take c.data (payLen c) 12 c''.off (by omega))

theorem built_frame (cfg : Cfg) (tbl : List MsgRow) (htbl : ∀ row ∈ tbl, WFFrag row.frag = true)
    (glo : SigTable) (n : Nat) (hn : n < 4096) (toks : List Tok) (fr : List Nat) (row : MsgRow)
    (hrow : findRow tbl n = some row) (hloc : Local (decFrag cfg row.frag))
    (h : (Builder.new.build cfg tbl glo (.typed n toks)).2 = .ok fr) :
    ∃ w1 c, NoPanic.Good ⟨w1, 12⟩ ∧ Fit ⟨w1, 12⟩ ∧
      encFrag cfg glo row.frag toks ⟨w1, 12⟩ = .ok (c, []) ∧
      (∀ nt c'', c''.off ≤ c.off → decFrag cfg row.frag ⟨c.data, 12⟩ = .ok (nt, c'') →
        ∃ f, frameNew (fr.map UInt8.ofNat) = .ok f ∧ decodeFrame cfg tbl f = .ok (.typed n nt)) ∧
      ∀ nt, encFrag cfg glo row.frag nt ⟨w1, 12⟩ = .ok (c, []) →
        (Builder.new.build cfg tbl glo (.typed n nt)).2 = .ok fr := by
  obtain ⟨_, _, row', w1, c, hm, hrow', B, rfl⟩ := build_ok_stages htbl C09.binv_new h
  cases hm
  cases hrow.symm.trans hrow'
  refine ⟨w1, c, B.good, by show 12 ≤ 8 * w1.length; have := B.len; omega, B.enc, ?_, ?_⟩
  · intro nt c'' hstop hdec
    exact decode_built cfg tbl n row c nt hrow B.ext.good B.clen B.ext.mono B.hi (B.num hn) hloc c''
      hstop hdec
  · intro nt hre
    exact build_ok_iff.mpr ⟨n, nt, row, w1, 12, c, rfl, hrow, B.put, hre,
      (sealed_take C09.binv_new.workData.1 B.clen B.hi).symm⟩

theorem normal_form_of_lawX (cfg : Cfg) (tbl : List MsgRow) (htbl : ∀ row ∈ tbl, WFFrag row.frag = true)
    (glo : SigTable) (n : Nat) (hn : n < 4096) (toks : List Tok) (fr : List Nat) (row : MsgRow)
    (hrow : findRow tbl n = some row) {P : Nat → Prop} {C : List Tok → Prop} {R : List Tok → List Tok → Prop}
    (hlaw : LawX (encFrag cfg glo row.frag) (decFrag cfg row.frag) P C R) (hP : P 12)
    (hloc : Local (decFrag cfg row.frag)) (hok : TokOK toks) (hC : C toks)
    (h : (Builder.new.build cfg tbl glo (.typed n toks)).2 = .ok fr) :
    ∃ f nt, frameNew (fr.map UInt8.ofNat) = .ok f ∧ decodeFrame cfg tbl f = .ok (.typed n nt) ∧
      (Builder.new.build cfg tbl glo (.typed n nt)).2 = .ok fr := by
  obtain ⟨w1, c, hg, hfit, henc, hdecode, hrebuild⟩ :=
    built_frame cfg tbl htbl glo n hn toks fr row hrow hloc h
  obtain ⟨_, _, nt, hdec, hre, _⟩ := hlaw toks ⟨w1, 12⟩ c [] hg hfit hP hok hC henc
  obtain ⟨f, hf, hd⟩ := hdecode nt c (Nat.le_refl _) hdec
  exact ⟨f, nt, hf, hd, hrebuild nt (List.append_nil nt ▸ hre [])⟩

theorem fixpoint_of_lawX (cfg : Cfg) (tbl : List MsgRow) (htbl : ∀ row ∈ tbl, WFFrag row.frag = true)
    (glo : SigTable) (n : Nat) (hn : n < 4096) (toks : List Tok) (fr : List Nat) (row : MsgRow)
    (hrow : findRow tbl n = some row) {P : Nat → Prop} {C : List Tok → Prop} {R : List Tok → List Tok → Prop}
    (hlaw : LawX (encFrag cfg glo row.frag) (decFrag cfg row.frag) P C R) (hP : P 12)
    (hloc : Local (decFrag cfg row.frag)) (hok : TokOK toks) (hC : C toks)
    (hdec0 : ∃ c0 c0', decFrag cfg row.frag c0 = .ok (toks, c0'))
    (h : (Builder.new.build cfg tbl glo (.typed n toks)).2 = .ok fr) :
    ∃ f nt, frameNew (fr.map UInt8.ofNat) = .ok f ∧ decodeFrame cfg tbl f = .ok (.typed n nt) ∧ R toks nt := by
  obtain ⟨w1, c, hg, hfit, henc, hdecode, -⟩ := built_frame cfg tbl htbl glo n hn toks fr row hrow hloc h
  obtain ⟨_, _, nt, hdec, _, hfix⟩ := hlaw toks ⟨w1, 12⟩ c [] hg hfit hP hok hC henc
  obtain ⟨c0, c0', h0⟩ := hdec0
  obtain ⟨f, hf, hd⟩ := hdecode nt c (Nat.le_refl _) hdec
  exact ⟨f, nt, hf, hd, (hfix c0 toks c0' [] h0 (List.append_nil _).symm).1⟩

theorem decodes_of_weak (cfg : Cfg) (tbl : List MsgRow) (htbl : ∀ row ∈ tbl, WFFrag row.frag = true)
    (glo : SigTable) (n : Nat) (hn : n < 4096) (toks : List Tok) (fr : List Nat) (row : MsgRow)
    (hrow : findRow tbl n = some row) {P : Nat → Prop} {Q : List Tok → Prop}
    (hweak : Weak (encFrag cfg glo row.frag) (decFrag cfg row.frag) P Q) (hP : P 12)
    (hloc : Local (decFrag cfg row.frag)) (hok : TokOK toks)
    (h : (Builder.new.build cfg tbl glo (.typed n toks)).2 = .ok fr) :
    ∃ f nt, frameNew (fr.map UInt8.ofNat) = .ok f ∧ decodeFrame cfg tbl f = .ok (.typed n nt) ∧ Q nt := by
  obtain ⟨w1, c, hg, hfit, henc, hdecode, -⟩ := built_frame cfg tbl htbl glo n hn toks fr row hrow hloc h
  obtain ⟨_, nt, c'', hdec, hstop, hq⟩ := hweak toks ⟨w1, 12⟩ c [] hg hfit hP hok henc
  obtain ⟨f, hf, hd⟩ := hdecode nt c'' hstop hdec
  exact ⟨f, nt, hf, hd, hq⟩

theorem normal_form_of_law (cfg : Cfg) (tbl : List MsgRow) (htbl : ∀ row ∈ tbl, WFFrag row.frag = true)
    (glo : SigTable) (n : Nat) (hn : n < 4096) (toks : List Tok) (fr : List Nat) (row : MsgRow)
    (hrow : findRow tbl n = some row)
    (hlaw : Law (encFrag cfg glo row.frag) (decFrag cfg row.frag))
    (hloc : Local (decFrag cfg row.frag)) (hok : TokOK toks)
    (h : (Builder.new.build cfg tbl glo (.typed n toks)).2 = .ok fr) :
    ∃ f nt, frameNew (fr.map UInt8.ofNat) = .ok f ∧ decodeFrame cfg tbl f = .ok (.typed n nt) ∧
      (Builder.new.build cfg tbl glo (.typed n nt)).2 = .ok fr :=
  normal_form_of_lawX cfg tbl htbl glo n hn toks fr row hrow (lawX_iff_law.mpr hlaw) trivial hloc hok
    trivial h

/-- a message value that some decode produced is a fixed point of encode-then-decode -/
theorem fixpoint_of_law (cfg : Cfg) (tbl : List MsgRow) (htbl : ∀ row ∈ tbl, WFFrag row.frag = true)
    (glo : SigTable) (n : Nat) (hn : n < 4096) (toks : List Tok) (fr : List Nat) (row : MsgRow)
    (hrow : findRow tbl n = some row)
    (hlaw : Law (encFrag cfg glo row.frag) (decFrag cfg row.frag))
    (hloc : Local (decFrag cfg row.frag)) (hok : TokOK toks)
    (hdec0 : ∃ c0 c0', decFrag cfg row.frag c0 = .ok (toks, c0'))
    (h : (Builder.new.build cfg tbl glo (.typed n toks)).2 = .ok fr) :
    ∃ f, frameNew (fr.map UInt8.ofNat) = .ok f ∧ decodeFrame cfg tbl f = .ok (.typed n toks) := by
  obtain ⟨f, nt, hf, hd, rfl⟩ := fixpoint_of_lawX cfg tbl htbl glo n hn toks fr row hrow
    (lawX_iff_law.mpr hlaw) trivial hloc hok trivial hdec0 h
  exact ⟨f, hf, hd⟩

end Rtcm.CodecMsg
