import Rtcm.Proofs.WFFrag
import Rtcm.Gen.Messages
/-!
Kernel evaluation (`decide +kernel`) of the Boolean predicates `DfWf.wf` over `Gen.dfTable` (C08,
C11) and `WF.WFFrag` over `Gen.messageTable` (C02, C09). Mathlib-free.
-/
namespace Rtcm.WF
open Rtcm.Schema

/-- Both tables in one evaluation. The leaves of the layouts are the constants `Gen.df_df…` that
make up `Gen.dfTable`, and inside one declaration the kernel computes `DfWf.wf` of each constant
once; two declarations would each pay for all the rows. -/
theorem tables_wf :
    (Gen.dfTable.all DfWf.wf && Gen.messageTable.all (fun r => WFFrag r.frag)) = true := by
  decide +kernel

theorem table_wfFrag : Gen.messageTable.all (fun r => WFFrag r.frag) = true :=
  (Bool.and_eq_true_iff.mp tables_wf).2

theorem wfFrag_of_mem {row : MsgRow} (h : row ∈ Gen.messageTable) : WFFrag row.frag = true :=
  List.all_eq_true.mp table_wfFrag row h

end Rtcm.WF
