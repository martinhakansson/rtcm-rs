import Rtcm.Model.Basic
/-!
`r.Sat Q E P`: a success of `r` satisfies `Q`, an error `E`, a panic message `P`.  One rule
(`Sat.bind`) carries a specification through a sequencing step, so that "never panics", "on success
the result has property …" and "panics only with …" are proved by the same traversal of a function
body written with `>>=`.
-/
namespace Rtcm.Res
variable {α β : Type}

def Sat (r : Res α) (Q : α → Prop) (E : RtcmError → Prop := fun _ => True)
    (P : String → Prop := fun _ => True) : Prop :=
  match r with
  | .ok a => Q a
  | .err e => E e
  | .panic w => P w

variable {r : Res α} {f : α → Res β} {Q Q' : α → Prop} {R : β → Prop} {E E' : RtcmError → Prop}
  {P P' : String → Prop}

theorem Sat.bind (hr : r.Sat Q E P) (hf : ∀ a, Q a → (f a).Sat R E P) : (r >>= f).Sat R E P := by
  cases r with
  | ok a => exact hf a hr
  | err e => exact hr
  | panic w => exact hr

theorem Sat.ite {c : Prop} [Decidable c] {t e : Res α} (ht : c → t.Sat Q E P) (he : ¬c → e.Sat Q E P) :
    (if c then t else e).Sat Q E P := by
  split
  · exact ht ‹_›
  · exact he ‹_›

theorem Sat.imp (h : r.Sat Q E P) (hq : ∀ a, Q a → Q' a) (he : ∀ e, E e → E' e := by exact fun _ h => h)
    (hp : ∀ w, P w → P' w := by exact fun _ h => h) : r.Sat Q' E' P' := by
  cases r with
  | ok a => exact hq a h
  | err e => exact he e h
  | panic w => exact hp w h

theorem sat_iff : r.Sat Q ↔ ∀ a, r = .ok a → Q a := by
  cases r with
  | ok a => exact ⟨fun h _ e => (Res.ok.inj e) ▸ h, fun h => h a rfl⟩
  | err e => exact ⟨fun _ _ h => (nomatch h), fun _ => trivial⟩
  | panic w => exact ⟨fun _ _ h => (nomatch h), fun _ => trivial⟩

theorem Sat.of_ok {a : α} (h : r.Sat Q E P) (e : r = .ok a) : Q a := by
  rw [e] at h; exact h

theorem Sat.of_panic {w : String} (h : r.Sat Q E P) (e : r = .panic w) : P w := by
  rw [e] at h; exact h

theorem bind_eq_ok {b : β} (h : (r >>= f) = .ok b) : ∃ a, r = .ok a ∧ f a = .ok b := by
  cases r with
  | ok a => exact ⟨a, rfl, h⟩
  | err e => cases h
  | panic w => cases h

theorem bind_assoc {γ : Type} (r : Res α) (f : α → Res β) (g : β → Res γ) :
    (r >>= f) >>= g = r >>= fun a => f a >>= g := by
  cases r <;> rfl

theorem Sat.trivial : r.Sat fun _ => True := by
  cases r <;> exact True.intro

end Rtcm.Res

namespace Rtcm.NoPanic

/-- the panic is a token-shape rejection of the model, not a modelled Rust panic -/
def TokPanic (w : String) : Prop := w.startsWith "tokens" = true

theorem tokPanic_count : TokPanic "tokens: count expected" := by unfold TokPanic; decide +kernel
theorem tokPanic_cap : TokPanic "tokens: list longer than capacity" := by unfold TokPanic; decide +kernel
theorem tokPanic_bytes : TokPanic "tokens: bytes expected" := by unfold TokPanic; decide +kernel
theorem tokPanic_strCap : TokPanic "tokens: string longer than capacity" := by unfold TokPanic; decide +kernel
theorem tokPanic_text : TokPanic "tokens: not an ArrayString<255>" := by unfold TokPanic; decide +kernel
theorem tokPanic_entries : TokPanic "tokens: bias entries expected" := by unfold TokPanic; decide +kernel
theorem tokPanic_sats : TokPanic "tokens: satellite rows expected" := by unfold TokPanic; decide +kernel
theorem tokPanic_sigs : TokPanic "tokens: signal rows expected" := by unfold TokPanic; decide +kernel
theorem tokPanic_float : TokPanic "tokens: float expected" := by unfold TokPanic; decide +kernel
theorem tokPanic_int : TokPanic "tokens: integer expected" := by unfold TokPanic; decide +kernel
theorem tokPanic_optional : TokPanic "tokens: optional expected" := by unfold TokPanic; decide +kernel
theorem tokPanic_value : TokPanic "tokens: value expected" := by unfold TokPanic; decide +kernel
theorem tokPanic_trailing : TokPanic "tokens: trailing tokens" := by unfold TokPanic; decide +kernel

end Rtcm.NoPanic
