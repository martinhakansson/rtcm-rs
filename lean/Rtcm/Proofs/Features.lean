import Rtcm.Model.Features
/-!
The feature model (C19, C14), for any tables.  The facts about the regenerated tables are kernel evaluations;
these lemmas keep the evaluations linear in the tables: closedness under *every* selection follows from one
pass over the `use` lists, and a feature without sub-features is its own closure.  And cheap: an injective
renaming of all names commutes with every function that only compares names, so the tables are evaluated
with `Nat` keys (`nameKey`), which the kernel compares in one step where it compares strings byte by byte.
-/
namespace Rtcm.Features

/-! The model's `lookup` and `enablesAux` once more, over any key type; `gateOf` and `usesOk` are over any
key type from the start. -/

namespace Keyed
variable {κ : Type} [DecidableEq κ]

def lookup (tbl : List (κ × List κ)) (k : κ) : Option (List κ) :=
  (tbl.find? (·.1 == k)).map (·.2)

def enablesAux (cargo : List (κ × List κ)) : Nat → List κ → List κ → List κ × Bool
  | _, [], acc => (acc.reverse, true)
  | 0, _ :: _, acc => (acc.reverse, false)
  | fuel + 1, f :: todo, acc =>
    if acc.contains f then enablesAux cargo fuel todo acc
    else
      let next := ((lookup cargo f).getD []).filter fun x => cargo.any (·.1 == x)
      enablesAux cargo fuel (todo ++ next) (f :: acc)

/-- the leaves of the closure of `root`, and whether the worklist ran empty -/
def msgFeatures (cargo : List (κ × List κ)) (fuel : Nat) (root : κ) : List κ × Bool :=
  ((enablesAux cargo fuel [root] []).1.filter fun f => lookup cargo f == some [],
   (enablesAux cargo fuel [root] []).2)

end Keyed

section
variable {κ : Type} [DecidableEq κ]

/-- the features any one of which compiles module `m`; `none`: compiled always -/
def gateOf (gates : List (κ × List κ)) (includes : List (κ × κ)) (m : κ) : Option (List κ) :=
  match gates.find? (·.1 == m) with
  | some g => some g.2
  | none => (includes.find? (·.1 == m)).map fun p => [p.2]

/-- the imported module is compiled always, or its gate `gd` lists every feature of the importer's
gate `gm` -/
def depOk : Option (List κ) → Option (List κ) → Bool
  | none, _ => true
  | some _, none => false
  | some gd, some gm => gm.all gd.contains

def usesOk (gates : List (κ × List κ)) (includes : List (κ × κ)) (uses : List (κ × List κ)) : Bool :=
  uses.all fun (m, deps) => deps.all fun d => depOk (gateOf gates includes d) (gateOf gates includes m)

end

section
variable {gates uses cargo : List (String × List String)} {includes : List (String × String)}

theorem moduleEnabled_eq (fs : FeatureSet) (m : String) :
    moduleEnabled gates includes fs m = (gateOf gates includes m).all (·.any fs.contains) := by
  unfold moduleEnabled gateOf lookup
  cases gates.find? (·.1 == m) with
  | some g => rfl
  | none =>
    cases includes.find? (·.1 == m) with
    | none => rfl
    | some p => exact (Bool.or_false _).symm

theorem closed_of_usesOk (h : usesOk gates includes uses = true) (fs : FeatureSet) :
    closed gates includes uses fs = true := by
  simp only [closed, usesOk, List.all_eq_true, Bool.or_eq_true, Bool.not_eq_true'] at h ⊢
  intro ⟨m, deps⟩ hm
  by_cases hen : moduleEnabled gates includes fs m = true
  · refine Or.inr fun d hd => ?_
    have := h _ hm d hd
    rw [moduleEnabled_eq] at hen ⊢
    unfold depOk at this
    split at this
    · next hgd => rw [hgd]; rfl
    · cases this
    · next gd gm hgd hgm =>
      rw [hgd]; rw [hgm] at hen
      simp only [Option.all_some, List.any_eq_true, List.all_eq_true] at hen this ⊢
      obtain ⟨f, hf, hfs⟩ := hen
      exact ⟨f, List.contains_iff_mem.1 (this f hf), hfs⟩
  · exact Or.inl (by simpa using hen)

theorem lookup_of_mem_msgFeatures {f : String} (h : f ∈ msgFeatures cargo) : lookup cargo f = some [] := by
  simpa using (List.mem_filter.1 h).2

theorem enablesAux_leaf {f : String} (h : lookup cargo f = some []) (fuel : Nat) :
    enablesAux cargo (fuel + 1) [f] [] = ([f], true) := by
  simp [enablesAux, h]

theorem enables_leaf {f : String} (h : lookup cargo f = some []) : enables cargo [f] = [f] :=
  congrArg Prod.fst (enablesAux_leaf h _)

theorem enablesComplete_leaf {f : String} (h : lookup cargo f = some []) : enablesComplete cargo [f] = true :=
  congrArg Prod.snd (enablesAux_leaf h _)

theorem known_of_lookup {f : String} {l : List String} (h : lookup cargo f = some l) :
    cargo.any (·.1 == f) = true := by
  unfold lookup at h
  cases hf : cargo.find? (·.1 == f) with
  | none => simp [hf] at h
  | some p =>
    exact List.any_eq_true.2 ⟨p, List.mem_of_find?_eq_some hf, by simpa using List.find?_some hf⟩

theorem supported_single {rows : List (String × String × String × Nat)} (hnd : (rows.map (·.1)).Nodup)
    {r : String × String × String × Nat} (hr : r ∈ rows) : supported rows [r.1] = [r.2.2.2] := by
  induction rows with
  | nil => cases hr
  | cons a rows ih =>
    have ⟨ha, hnd⟩ := List.nodup_cons.1 hnd
    have hnone : ∀ l : List (String × String × String × Nat), a.1 ∉ l.map (·.1) →
        supported l [a.1] = [] := by
      intro l hl
      simp only [supported, List.map_eq_nil_iff, List.filter_eq_nil_iff]
      intro x hx hc
      exact hl (List.mem_map.2 ⟨x, hx, by simpa using hc⟩)
    rcases List.mem_cons.1 hr with rfl | hr
    · simpa [supported] using hnone rows ha
    · have : a.1 ≠ r.1 := fun e => ha (List.mem_map.2 ⟨r, hr, e.symm⟩)
      simpa [supported, this] using ih hnd hr

end

/-- bytes as digits 1..256, so that no two byte strings share a number -/
def bytesKey (l : List UInt8) : Nat := l.foldr (fun b n => n * 256 + b.toNat + 1) 0

def nameKey (s : String) : Nat := bytesKey s.toByteArray.data.toList

theorem bytesKey_inj {l l' : List UInt8} (h : bytesKey l = bytesKey l') : l = l' := by
  induction l generalizing l' with
  | nil => cases l' with
    | nil => rfl
    | cons => exact absurd h.symm (Nat.succ_ne_zero _)
  | cons b l ih => cases l' with
    | nil => exact absurd h (Nat.succ_ne_zero _)
    | cons b' l' =>
      have hb := b.toNat_lt
      have hb' := b'.toNat_lt
      simp only [bytesKey, List.foldr_cons] at h ih
      rw [ih (l' := l') (by omega), UInt8.toNat_inj.1 (by omega : b.toNat = b'.toNat)]

theorem nameKey_inj {s t : String} (h : nameKey s = nameKey t) : s = t :=
  String.toByteArray_inj.1 (ByteArray.ext (Array.toList_inj.1 (bytesKey_inj h)))

variable {κ : Type} [DecidableEq κ] {k : String → κ} (hk : ∀ a b, k a = k b → a = b)
  (tbl gates uses cargo : List (String × List String)) (includes : List (String × String))
  (x : String) (l : List String)

def ren (k : String → κ) : List (κ × List κ) := tbl.map fun r => (k r.1, r.2.map k)

include hk

theorem beq_ren (a b : String) : (k a == k b) = (a == b) := by
  rw [Bool.eq_iff_iff, beq_iff_eq, beq_iff_eq]
  exact ⟨hk a b, congrArg k⟩

theorem contains_ren : (l.map k).contains (k x) = l.contains x := by
  simp only [List.contains_eq_any_beq, List.any_map, Function.comp_def, beq_ren hk]

theorem count_ren : (l.map k).count (k x) = l.count x := by
  simp only [List.count, List.countP_map, Function.comp_def, beq_ren hk]

theorem perm_of_map_ren {l l' : List String} (h : (l.map k).Perm (l'.map k)) : l.Perm l' :=
  List.perm_iff_count.2 fun a => by rw [← count_ren hk a l, ← count_ren hk a l', List.perm_iff_count.1 h]

theorem any_ren : (ren tbl k).any (·.1 == k x) = tbl.any (·.1 == x) := by
  simp only [ren, List.any_map, Function.comp_def, beq_ren hk]

theorem lookup_ren : Keyed.lookup (ren tbl k) (k x) = (lookup tbl x).map (List.map k) := by
  simp only [Keyed.lookup, lookup, ren, List.find?_map, Function.comp_def, beq_ren hk, Option.map_map]

theorem enablesAux_ren (fuel : Nat) (todo acc : List String) :
    Keyed.enablesAux (ren cargo k) fuel (todo.map k) (acc.map k) =
      ((enablesAux cargo fuel todo acc).1.map k, (enablesAux cargo fuel todo acc).2) := by
  induction fuel generalizing todo acc with
  | zero =>
    cases todo with
    | nil => simp only [List.map_nil, Keyed.enablesAux, enablesAux, List.map_reverse]
    | cons => simp only [List.map_cons, Keyed.enablesAux, enablesAux, List.map_reverse]
  | succ fuel ih =>
    cases todo with
    | nil => simp only [List.map_nil, Keyed.enablesAux, enablesAux, List.map_reverse]
    | cons f todo =>
      rw [List.map_cons, Keyed.enablesAux, enablesAux, contains_ren hk, lookup_ren hk]
      split
      · exact ih todo acc
      · rw [← ih]
        cases lookup cargo f with
        | none =>
          simp only [Option.map_none, Option.getD_none, List.filter_nil, List.append_nil,
            List.map_cons]
        | some l =>
          simp only [Option.map_some, Option.getD_some, List.map_append, List.map_cons,
            List.filter_map, Function.comp_def, any_ren hk]

theorem msgFeatures_ren :
    Keyed.msgFeatures (ren cargo k) (fuelFor cargo ["all_msgs"]) (k "all_msgs") =
      ((msgFeatures cargo).map k, enablesComplete cargo ["all_msgs"]) := by
  have h := enablesAux_ren hk cargo (fuelFor cargo ["all_msgs"]) ["all_msgs"] []
  simp only [List.map_cons, List.map_nil] at h
  simp only [Keyed.msgFeatures, h, msgFeatures, enables, enablesComplete, List.filter_map,
    Function.comp_def, lookup_ren hk]
  congr 3
  funext f
  cases lookup cargo f with
  | none => rfl
  | some l => cases l <;> rfl

theorem gateOf_ren : gateOf (ren gates k) (includes.map (Prod.map k k)) (k x) =
    (gateOf gates includes x).map (List.map k) := by
  unfold gateOf
  rw [ren, List.find?_map, List.find?_map]
  simp only [Function.comp_def, Prod.map, beq_ren hk]
  cases gates.find? (·.1 == x) with
  | some g => rfl
  | none => cases includes.find? (·.1 == x) <;> rfl

theorem depOk_ren (gd gm : Option (List String)) :
    depOk (gd.map (List.map k)) (gm.map (List.map k)) = depOk gd gm := by
  cases gd with
  | none => rfl
  | some gd =>
    cases gm with
    | none => rfl
    | some gm => simp only [depOk, Option.map_some, List.all_map, Function.comp_def, contains_ren hk]

theorem usesOk_ren :
    usesOk (ren gates k) (includes.map (Prod.map k k)) (ren uses k) = usesOk gates includes uses := by
  unfold usesOk
  rw [ren.eq_1 uses]
  simp only [List.all_map, Function.comp_def, gateOf_ren hk, depOk_ren hk]

theorem gatesKnown_ren : (ren gates k).all (fun g => g.2.all fun n => (ren cargo k).any (·.1 == n)) =
    gates.all fun g => allFeaturesKnown cargo g.2 := by
  rw [ren.eq_1 gates]
  simp only [allFeaturesKnown, List.all_map, Function.comp_def, any_ren hk]

end Rtcm.Features
