import Rtcm.Proofs.Law
import Rtcm.Proofs.NoPanicDec
import Rtcm.Proofs.TextLaws
/-!
The codec law at the leaves.  For a data field it rests on `DfLaws.decode_encode`: the value `Df.decode` gives
for a pattern on the wire is encoded as that pattern again, so the pattern a decoder read is a fixed point.
`str_law` is C17's round trip in this form.
-/
namespace Rtcm.CodecLaw
open Rtcm.Bits Rtcm.Schema Rtcm.Interp Rtcm.CurLaws Rtcm.Text Rtcm.WF

theorem carrier_back (it : IT) {x : Nat} (hx : x < 2 ^ it.w) : ofInt it.w (Df.carrierVal it x) = x := by
  unfold Df.carrierVal
  split
  · exact ofInt_toInt hx
  · exact ofInt_natCast hx

theorem parse_of_parseF {cfg : Cfg} {it : IT} {len : Nat} {D : List Nat} {o v o' : Nat}
    (h : parseF cfg it len ⟨D, o⟩ = .ok (v, ⟨D, o'⟩)) : parse cfg it D o len = .ok (v, o') := by
  unfold parseF at h
  simp only at h
  split at h
  · next v1 o1 e =>
    simp only [Res.ok.injEq, Prod.mk.injEq, Cur.mk.injEq, true_and] at h
    obtain ⟨rfl, rfl⟩ := h
    exact e
  · cases h
  · cases h

theorem putF_ok_iff {cfg : Cfg} {it : IT} {v len : Nat} {c c' : Cur} :
    putF cfg it v len c = .ok c' ↔ put cfg it c.data c.off v len = .ok (c'.data, c'.off) := by
  rw [Layout.putF_eq_bind]
  constructor
  · intro h
    obtain ⟨⟨d, o⟩, e, h⟩ := Res.bind_eq_ok h
    cases h
    exact e
  · intro h
    rw [h]
    rfl

theorem df_core (cfg : Cfg) (s : DfSpec) (hw : DfWf.wf s = true) (ts : List Tok) (c c' : Cur)
    (rest : List Tok) (hg : NoPanic.Good c) (h : Df.encode cfg s ts c = .ok (c', rest)) :
    (∃ pre, ts = pre ++ rest) ∧ NoPanic.Ext c c' ∧
    ∃ nt, Df.decode cfg s ⟨c'.data, c.off⟩ = .ok (nt, c') ∧
      (∀ rest', Df.encode cfg s (nt ++ rest') c = .ok (c', rest')) ∧
      ∀ c0 t0 c0' r, Df.decode cfg s c0 = .ok (t0, c0') → ts = t0 ++ r → nt = t0 ∧ rest = r := by
  have hext : NoPanic.Ext c c' := (NoPanic.dfEncode_es cfg s ts c (NoPanic.widths_of_wf hw) hg).of_ok h
  obtain ⟨hw8, hw64, h1, hlw⟩ := NoPanic.widths_of_wf hw
  obtain ⟨t, z, _, hsuf, hput⟩ := Df.encode_ok h
  have hp0 := ofInt_lt s.it.w z
  generalize ofInt s.it.w z = p0 at hp0 hput
  refine ⟨⟨t, hsuf⟩, hext, ?_⟩
  have hputF := putF_ok_iff.mpr hput
  obtain ⟨_, hoff, hrd⟩ := putF_law cfg s.it ⟨hw8, hw64, h1, hlw⟩ hg hp0 hputF
  -- the field just written reads back as `x`; `x` need not be the pattern `p0` that was put (negative
  -- zero, bits above `len`), but it is in range and `put x` writes the same bits (`hputx`)
  have hparseF := hrd.self
  generalize hx : readValue s.it s.len (wireValue s.it s.len p0) = x at hparseF
  have hparse : parse cfg s.it c'.data c.off s.len = .ok (x, c'.off) := parse_of_parseF hparseF
  have hwl := wireValue_lt s.it h1 p0
  have hxlt : x < 2 ^ s.it.w := by rw [← hx]; exact readValue_lt s.it h1 hlw hwl
  have hr : DfWf.InRange s (Df.carrierVal s.it x) := by
    rw [← hx]; exact NoPanic.readValue_inRange s _ h1 hlw hwl
  have hwx : wireValue s.it s.len x = wireValue s.it s.len p0 := by
    rw [← hx]
    exact wireValue_readValue s.it h1 hlw hwl (fun hk => wireValue_ne_negZero s.it h1 p0 hk)
  have hputx : put cfg s.it c.data c.off x s.len = .ok (c'.data, c'.off) :=
    putF_ok_iff.mp (Layout.putF_congr cfg s.it ⟨hw8, hw64, h1, hlw⟩ hg hp0 hxlt hwx.symm ▸ hputF)
  obtain ⟨nt, hdec, _⟩ := DfLaws.decode_encode cfg s ⟨c'.data, c.off⟩ c x c'.off [] hw hparse hr
  refine ⟨nt, hdec, ?_, ?_⟩
  · intro rest'
    obtain ⟨nt', hdec', henc⟩ :=
      DfLaws.decode_encode cfg s ⟨c'.data, c.off⟩ c x c'.off rest' hw hparse hr
    rw [hdec] at hdec'
    simp only [Res.ok.injEq, Prod.mk.injEq, and_true] at hdec'
    subst hdec'
    rw [henc, carrier_back s.it hxlt]
    exact DfLaws.putPat_eq_ok_iff.mpr ⟨hputx, rfl⟩
  · intro c0 t0 c0' r hd0 hts
    -- a decoder read `y` somewhere and produced `t0`; by the same lemma `t0` was encoded here as the pattern of
    -- that reading, so the field read back is that reading again: `x = readValue y`, same tokens
    obtain ⟨q, o0, tk0, e0, hq0, rfl, _⟩ := Df.decode_ok.mp hd0
    obtain ⟨-, rfl, rfl⟩ := (parse_ok_iff cfg s.it c0.data c0.off s.len hw64 h1 hlw).mp e0
    have hy := fieldValue_lt c0.data c0.off s.len
    generalize fieldValue c0.data c0.off s.len = y at hy hq0 e0 hd0 hts
    have hqlt : readValue s.it s.len y < 2 ^ s.it.w := readValue_lt s.it h1 hlw hy
    obtain ⟨t0', hd0', henc0⟩ := DfLaws.decode_encode cfg s c0 c _ _ r hw e0
      (NoPanic.readValue_inRange s _ h1 hlw hy)
    rw [hd0] at hd0'
    simp only [Res.ok.injEq, Prod.mk.injEq] at hd0'
    obtain ⟨rfl, _⟩ := hd0'
    rw [hts, henc0, carrier_back s.it hqlt] at h
    obtain ⟨e, rfl⟩ := DfLaws.putPat_eq_ok_iff.mp h
    refine ⟨?_, rfl⟩
    obtain ⟨_, _, hrd'⟩ := putF_law cfg s.it ⟨hw8, hw64, h1, hlw⟩ hg hqlt (putF_ok_iff.mpr e)
    have hp2 := parse_of_parseF hrd'.self
    rw [readValue_idem s.it h1 hlw hy, hparse] at hp2
    cases hp2
    obtain ⟨_, _, tk, hq1, hdq, rfl, _⟩ := Df.decode_ok.mp hdec
    cases hparse.symm.trans hq1
    cases hdq.symm.trans hq0
    rfl

theorem df_law (cfg : Cfg) (s : DfSpec) (hw : DfWf.wf s = true) :
    Law (Df.encode cfg s) (Df.decode cfg s) :=
  fun ts c c' rest hg _ _ h => df_core cfg s hw ts c c' rest hg h

theorem pushNorm_idem (x : Nat) : pushNorm (pushNorm x) = pushNorm x := by
  by_cases h : x = 0
  · rw [h]; rfl
  · unfold pushNorm
    rw [if_neg h, if_neg h]

theorem encFrag_ext {cfg : Cfg} {glo : SigTable} {f : Frag} (hw : WFFrag f = true) {ts rest : List Tok}
    {c c' : Cur} (hg : NoPanic.Good c) (h : encFrag cfg glo f ts c = .ok (c', rest)) : NoPanic.Ext c c' :=
  (NoPanic.encFrag_sat cfg glo f hw ts c hg).of_ok h

theorem strDecode_image {cfg : Cfg} {cap lenBits : Nat} {c c' : Cur} {b : List Nat}
    (h : strDecode cfg cap lenBits c = .ok (b, c')) : ∃ len c1 bs,
      parseBytes cfg len c1 = .ok (bs, c') ∧ b = bs.map pushNorm := by
  rw [strDecode_eq] at h
  obtain ⟨⟨len, c1⟩, _, h⟩ := Res.bind_eq_ok h
  dsimp only at h
  split at h
  · cases h
  · obtain ⟨bs, e, rfl⟩ := (bind_map_ok (List.map pushNorm)).mp h
    exact ⟨len, c1, bs, e, rfl⟩

theorem str_law (cfg : Cfg) (glo : SigTable) (cap lenBits : Nat) (hW : Bits.Widths 8 lenBits)
    (hcap : cap < 2 ^ lenBits) :
    Law (encFrag cfg glo (.str cap lenBits)) (decFrag cfg (.str cap lenBits)) := by
  intro ts c c' rest hg hfit hok h
  have hext := encFrag_ext (wfFrag_str.mpr hW) hg h
  obtain ⟨b, rfl, hlen, hstr⟩ := encFrag_str_ok.mp h
  have hb : ∀ x ∈ b.map pushNorm, 1 ≤ x ∧ x ≤ 255 := by
    intro x hx
    obtain ⟨y, hy, rfl⟩ := List.mem_map.mp hx
    have := hok (.bytes b) (List.mem_cons_self ..)
    simp only [tokOK, List.all_eq_true, decide_eq_true_eq] at this
    have hy' := this y hy
    unfold pushNorm
    split <;> omega
  have hdec := (TextLaws.strEncode_law cfg cap lenBits hW.pos hW.le hcap (b.map pushNorm) hb
    (by simp only [List.length_map]; omega) c c' hg hstr).2.2.self
  have hpp : ∀ l : List Nat, (l.map pushNorm).map pushNorm = l.map pushNorm := fun l => by
    rw [List.map_map, show (pushNorm ∘ pushNorm) = pushNorm from funext pushNorm_idem]
  refine ⟨⟨[_], rfl⟩, hext, [.bytes (b.map pushNorm)], ?_, ?_, ?_⟩
  · rw [decFrag_str]
    exact (bind_map_ok fun b => [Tok.bytes b]).mpr ⟨_, hdec, rfl⟩
  · intro rest'
    exact encFrag_str_ok.mpr ⟨_, rfl, by rwa [List.length_map], by rwa [hpp]⟩
  · intro c0 t0 c0' r h0 hts
    rw [decFrag_str] at h0
    obtain ⟨b0, e0, rfl⟩ := (bind_map_ok fun b => [Tok.bytes b]).mp h0
    cases hts
    obtain ⟨_, _, bs, _, rfl⟩ := strDecode_image e0
    exact ⟨by rw [hpp], rfl⟩

/-- the count field of a `msg_len_middle!`: an unsigned field without scaling holds `n < 2 ^ len` as it is -/
theorem count_law (cfg : Cfg) (l : DfSpec) (hc : wfCount l = true) (hk : l.it.kind = .u) {n : Nat}
    (hn : n < 2 ^ l.len) {c1 c2 : Cur} {r : List Tok}
    (h : Df.encode cfg l [.int n] c1 = .ok (c2, r)) :
    Df.decode cfg l ⟨c2.data, c1.off⟩ = .ok ([.int n], c2) ∧
    ∀ r', Df.encode cfg l (.int n :: r') c1 = .ok (c2, r') := by
  obtain ⟨hwf, hfl, hres, hbias, hinv⟩ := wfCount_spec.mp hc
  obtain ⟨hw8, hw64, h1, hlw⟩ := NoPanic.widths_of_wf hwf
  have hv : n < 2 ^ l.it.w := Nat.lt_of_lt_of_le hn (Nat.pow_le_pow_right (by decide) hlw)
  have henc := fun r' => Df.encode_count (cfg := cfg) hfl hres hbias hinv hv r' c1
  rw [henc] at h
  obtain ⟨⟨d, o⟩, hp, h⟩ := Res.bind_eq_ok h
  cases h
  refine ⟨?_, fun r' => by rw [henc, hp]; rfl⟩
  obtain ⟨-, -, -, -, hfit, -, -, rfl⟩ := put_of_ok hp
  have hparse := parse_after_put cfg l.it c1.data c1.off n l.len ⟨hw8, hw64, h1, hlw⟩
    (Nat.mul_comm _ _ ▸ hfit) hv hp
  rw [readValue_wireValue l.it h1 hlw hv (by simp only [Representable, hk]; exact hn)] at hparse
  have hcv : Df.carrierVal l.it n = (n : Int) := by
    unfold Df.carrierVal IT.signed
    rw [hk]; rfl
  -- the reading `n` lies between the extreme readings of the field, which are values of the `dt`
  obtain ⟨hb, -, ok⟩ := DfLaws.wf_int hwf hfl
  have hlo := (DfLaws.sv_bounds hb).lo_u hk ▸ ok.lo
  have hhi : (2 : Int) ^ l.len - 1 ≤ (Df.dtRange l.dt).2 := by
    have := ok.hi
    unfold DfWf.svHi at this
    rwa [hk] at this
  have hwrap : Df.wrapDT l.dt (n : Int) = n := by
    apply DfLaws.wrapDT_eq
    · omega
    · have : (n : Int) < ((2 ^ l.len : Nat) : Int) := by exact_mod_cast hn
      simp only [Nat.cast_pow, Nat.cast_ofNat] at this
      omega
  refine Df.decode_ok.mpr ⟨n, _, .int n, hparse, ?_, by rw [Df.toksOf, hinv], rfl⟩
  simp only [Df.dequantise_of_int hfl, hres, hbias, hcv, hwrap, Res.bind_ok]

theorem ext_of_curExt {c c' : Cur} (e : CurLaws.Ext c c') : NoPanic.Ext c c' :=
  ⟨e.good, e.len, e.le, fun _ => e.fit, fun g hg => e.keep g (Or.inl hg)⟩

end Rtcm.CodecLaw
