import Rtcm.Proofs.DecLocal
import Rtcm.Proofs.NoPanicEnc
/-!
`Law E D`: when `E` succeeds on a byte buffer, `D` run on the buffer it left, from the old cursor, returns
tokens `nt` and stops where `E` stopped; `nt` is accepted by `E` and gives the same buffer and cursor, bit for
bit (normal form); and if the tokens consumed had themselves come out of `D`, from any buffer whatsoever,
then `nt` is those tokens (fixed point).  `LawX` (stated first; easier read from `Law`) adds side conditions,
`P` on the start offset and `C` on the tokens, and has the fixed point up to a relation `R`.

They compose by one lemma, `LawX.seq`, which needs the first decoder `DecLocal.Local`: what it decoded from
the buffer the first encoder left it still decodes after the second has written behind it (`read_after`).
-/
namespace Rtcm.CodecLaw
open Rtcm.DecLocal

abbrev Fit (c : Cur) : Prop := c.off ≤ 8 * c.data.length

/-- a token that a Rust value can give rise to: byte strings consist of bytes -/
def tokOK : Tok → Bool
  | .bytes b => b.all (· < 256)
  | _ => true

def TokOK (ts : List Tok) : Prop := ∀ t ∈ ts, tokOK t = true

theorem TokOK.suffix {pre rest : List Tok} (h : TokOK (pre ++ rest)) : TokOK rest :=
  fun t ht => h t (List.mem_append_right _ ht)

theorem TokOK.tail {t : Tok} {ts : List Tok} (h : TokOK (t :: ts)) : TokOK ts :=
  fun x hx => h x (List.mem_cons_of_mem _ hx)

theorem TokOK.nil : TokOK [] := fun _ h => nomatch h

theorem TokOK.append {a b : List Tok} (ha : TokOK a) (hb : TokOK b) : TokOK (a ++ b) := by
  intro t ht
  rcases List.mem_append.mp ht with h | h
  · exact ha t h
  · exact hb t h

theorem TokOK.cons {t : Tok} {ts : List Tok} (ht : tokOK t = true) (hs : TokOK ts) : TokOK (t :: ts) := by
  intro x hx
  rcases List.mem_cons.mp hx with rfl | h
  · exact ht
  · exact hs x h

theorem read_after {α : Type} {Dd : Cur → Res (α × Cur)} (l : LocalG Dd) {o : Nat} {c1 c2 : Cur} {nt : α}
    (e12 : NoPanic.Ext c1 c2) (hg1 : NoPanic.Good c1) (hfit1 : Fit c1)
    (hd : Dd ⟨c1.data, o⟩ = .ok (nt, c1)) : Dd ⟨c2.data, o⟩ = .ok (nt, ⟨c2.data, c1.off⟩) := by
  obtain ⟨_, _, loc⟩ := l c1.data o nt c1 hd
  refine loc c2.data hg1 e12.good ?_ fun g _ hg => e12.keep g hg
  have := e12.len
  unfold Fit at hfit1
  omega

end Rtcm.CodecLaw

namespace Rtcm.SpecialRows
open Rtcm.Interp Rtcm.CodecLaw

def LawX (E : Enc) (Dd : Dec) (P : Nat → Prop) (C : List Tok → Prop) (R : List Tok → List Tok → Prop) : Prop :=
  ∀ ts c c' rest, NoPanic.Good c → Fit c → P c.off → TokOK ts → C ts → E ts c = .ok (c', rest) →
    (∃ pre, ts = pre ++ rest) ∧ NoPanic.Ext c c' ∧
    ∃ nt, Dd ⟨c'.data, c.off⟩ = .ok (nt, c') ∧ (∀ rest', E (nt ++ rest') c = .ok (c', rest')) ∧
      ∀ c0 t0 c0' r, Dd c0 = .ok (t0, c0') → ts = t0 ++ r → R t0 nt ∧ rest = r

theorem LawX.mono {E : Enc} {Dd : Dec} {P P' : Nat → Prop} {C C' : List Tok → Prop}
    {R R' : List Tok → List Tok → Prop} (h : LawX E Dd P C R) (hP : ∀ o, P' o → P o) (hC : ∀ ts, C' ts → C ts)
    (hR : ∀ a b, R a b → R' a b) : LawX E Dd P' C' R' := by
  intro ts c c' rest hg hfit hp hok hc he
  obtain ⟨a, b, nt, d, r, fx⟩ := h ts c c' rest hg hfit (hP _ hp) hok (hC _ hc) he
  exact ⟨a, b, nt, d, r, fun c0 t0 c0' r' h0 hts => (fx c0 t0 c0' r' h0 hts).imp_left (hR _ _)⟩

theorem LawX.congr {E E' : Enc} {Dd Dd' : Dec} {P : Nat → Prop} {C : List Tok → Prop}
    {R : List Tok → List Tok → Prop} (h : LawX E' Dd' P C R) (hE : ∀ ts c, E ts c = E' ts c)
    (hD : ∀ c, Dd c = Dd' c) : LawX E Dd P C R :=
  (funext fun ts => funext (hE ts) : E = E') ▸ (funext hD : Dd = Dd') ▸ h

end Rtcm.SpecialRows

namespace Rtcm.CodecLaw
open Rtcm.Interp Rtcm.SpecialRows

def Law (E : Enc) (Dd : Dec) : Prop :=
  ∀ ts c c' rest, NoPanic.Good c → Fit c → TokOK ts → E ts c = .ok (c', rest) →
    (∃ pre, ts = pre ++ rest) ∧ NoPanic.Ext c c' ∧
    ∃ nt, Dd ⟨c'.data, c.off⟩ = .ok (nt, c') ∧ (∀ rest', E (nt ++ rest') c = .ok (c', rest')) ∧
      ∀ c0 t0 c0' r, Dd c0 = .ok (t0, c0') → ts = t0 ++ r → nt = t0 ∧ rest = r

theorem lawX_iff_law {E : Enc} {Dd : Dec} : LawX E Dd (fun _ => True) (fun _ => True) Eq ↔ Law E Dd := by
  constructor
  · intro h ts c c' rest hg hfit hok he
    obtain ⟨a, b, nt, d, r, fx⟩ := h ts c c' rest hg hfit trivial hok trivial he
    exact ⟨a, b, nt, d, r, fun c0 t0 c0' r' h0 hts => (fx c0 t0 c0' r' h0 hts).imp_left Eq.symm⟩
  · intro h ts c c' rest hg hfit _ hok _ he
    obtain ⟨a, b, nt, d, r, fx⟩ := h ts c c' rest hg hfit hok he
    exact ⟨a, b, nt, d, r, fun c0 t0 c0' r' h0 hts => (fx c0 t0 c0' r' h0 hts).imp_left Eq.symm⟩

end Rtcm.CodecLaw

namespace Rtcm.SpecialRows
open Rtcm.Interp Rtcm.CodecLaw Rtcm.DecLocal

theorem LawX.seq {E1 E2 : Enc} {D1 D2 : Dec} {P P2 : Nat → Prop} {C C2 : List Tok → Prop}
    {R2 R : List Tok → List Tok → Prop}
    (h1 : Law E1 D1) (l1 : Local D1) (h2 : LawX E2 D2 P2 C2 R2)
    (hstep : ∀ ts c c1 ts1, NoPanic.Good c → P c.off → C ts → E1 ts c = .ok (c1, ts1) → P2 c1.off ∧ C2 ts1)
    (hR : ∀ c0 a c0' b b', D1 c0 = .ok (a, c0') → R2 b b' → R (a ++ b) (a ++ b')) :
    LawX (Enc.seq E1 E2) (Dec.seq D1 D2) P C R := by
  intro ts c c2 rest hg hfit hP hok hC h
  obtain ⟨c1, ts1, e1, e2⟩ := Enc.seq_ok.mp h
  obtain ⟨⟨pre1, hs1⟩, x1, nt1, d1, r1, fx1⟩ := h1 ts c c1 ts1 hg hfit hok e1
  obtain ⟨hP2, hC2⟩ := hstep ts c c1 ts1 hg hP hC e1
  have hfit1 : Fit c1 := x1.fit hfit
  obtain ⟨⟨pre2, hs2⟩, x2, nt2, d2, r2, fx2⟩ :=
    h2 ts1 c1 c2 rest x1.good hfit1 hP2 (hs1 ▸ hok).suffix hC2 e2
  refine ⟨⟨pre1 ++ pre2, by rw [hs1, hs2, List.append_assoc]⟩, x1.trans x2, nt1 ++ nt2, ?_, ?_, ?_⟩
  · exact Dec.seq_ok.mpr ⟨nt1, _, nt2, read_after l1 x2 x1.good hfit1 d1, d2, rfl⟩
  · intro rest'
    exact Enc.seq_ok.mpr ⟨c1, nt2 ++ rest', List.append_assoc .. ▸ r1 _, r2 rest'⟩
  · intro c0 t0 c0' r h0 hts
    obtain ⟨ta, ca, tb, ea, eb, rfl⟩ := Dec.seq_ok.mp h0
    rw [List.append_assoc] at hts
    obtain ⟨rfl, rfl⟩ := fx1 c0 ta ca (tb ++ r) ea hts
    obtain ⟨hb, rfl⟩ := fx2 ca tb c0' r eb rfl
    exact ⟨hR c0 nt1 ca tb nt2 ea hb, rfl⟩

def LawW (E : Enc) (Dd : Dec) (P : Nat → Prop) (Q : List Tok → Prop) : Prop :=
  ∀ ts c c' rest, NoPanic.Good c → Fit c → P c.off → E ts c = .ok (c', rest) →
    NoPanic.Ext c c' ∧
    ∃ nt c'', Dd ⟨c'.data, c.off⟩ = .ok (nt, c'') ∧ c''.data = c'.data ∧ c''.off ≤ c'.off ∧ Q nt

theorem LawW.congr {E E' : Enc} {Dd Dd' : Dec} {P : Nat → Prop} {Q : List Tok → Prop}
    (h : LawW E' Dd' P Q) (hE : ∀ ts c, E ts c = E' ts c) (hD : ∀ c, Dd c = Dd' c) : LawW E Dd P Q :=
  (funext fun ts => funext (hE ts) : E = E') ▸ (funext hD : Dd = Dd') ▸ h

/-- what message-level statements without a clean-input hypothesis use -/
def Weak (E : Enc) (Dd : Dec) (P : Nat → Prop) (Q : List Tok → Prop) : Prop :=
  ∀ ts c c' rest, NoPanic.Good c → Fit c → P c.off → TokOK ts → E ts c = .ok (c', rest) →
    NoPanic.Ext c c' ∧ ∃ nt c'', Dd ⟨c'.data, c.off⟩ = .ok (nt, c'') ∧ c''.off ≤ c'.off ∧ Q nt

theorem LawW.weak {E : Enc} {Dd : Dec} {P : Nat → Prop} {Q : List Tok → Prop} (h : LawW E Dd P Q) :
    Weak E Dd P Q := fun ts c c' rest hg hfit hP _ he =>
  let ⟨x, nt, c'', d, _, hs, hq⟩ := h ts c c' rest hg hfit hP he
  ⟨x, nt, c'', d, hs, hq⟩

theorem LawX.weak {E : Enc} {Dd : Dec} {P : Nat → Prop} {R : List Tok → List Tok → Prop}
    (h : LawX E Dd P (fun _ => True) R) : Weak E Dd P fun _ => True := fun ts c c' rest hg hfit hP hok he =>
  let ⟨_, x, nt, d, _⟩ := h ts c c' rest hg hfit hP hok trivial he
  ⟨x, nt, c', d, Nat.le_refl _, trivial⟩

/-- what the message level needs of one layout -/
structure RowLaw (E : Enc) (Dd : Dec) (P : Nat → Prop) (C : List Tok → Prop)
    (R : List Tok → List Tok → Prop) (Q : List Tok → Prop) : Prop where
  lawX : LawX E Dd P C R
  weak : Weak E Dd P Q
  decoded : ∀ c t c', DecLocal.Bytes c.data → Dd c = .ok (t, c') → TokOK t ∧ C t

theorem RowLaw.of_law {E : Enc} {Dd : Dec} (hl : Law E Dd) (htok : ∀ c t c', Dd c = .ok (t, c') → TokOK t) :
    RowLaw E Dd (fun _ => True) (fun _ => True) Eq fun _ => True :=
  ⟨lawX_iff_law.mpr hl, (lawX_iff_law.mpr hl).weak, fun c t c' _ h => ⟨htok c t c' h, trivial⟩⟩

theorem RowLaw.congr {E : Enc} {Dd : Dec} {P P' : Nat → Prop} {C C' : List Tok → Prop}
    {R R' : List Tok → List Tok → Prop} {Q Q' : List Tok → Prop} (h : RowLaw E Dd P C R Q)
    (hP : ∀ o, P' o → P o := by exact fun _ h => h) (hC : ∀ ts, C' ts ↔ C ts := by exact fun _ => Iff.rfl)
    (hR : ∀ a b, R a b → R' a b := by exact fun _ _ h => h) (hQ : ∀ t, Q t → Q' t := by exact fun _ h => h) :
    RowLaw E Dd P' C' R' Q' :=
  ⟨h.lawX.mono hP (fun ts => (hC ts).mp) hR,
    fun ts c c' rest hg hfit hp hok he =>
      let ⟨x, nt, c'', d, hs, hq⟩ := h.weak ts c c' rest hg hfit (hP _ hp) hok he
      ⟨x, nt, c'', d, hs, hQ nt hq⟩,
    fun c t c' hb hd => (h.decoded c t c' hb hd).imp_right (hC t).mpr⟩

end Rtcm.SpecialRows

namespace Rtcm.CodecLaw
open Rtcm.Interp Rtcm.DecLocal Rtcm.SpecialRows

theorem law_nil : Law Enc.nil Dec.nil := by
  intro ts c c' rest hg hfit _ h
  cases h
  exact ⟨⟨[], rfl⟩, NoPanic.Ext.refl hg, [], rfl, fun _ => rfl,
    fun c0 t0 c0' r h0 hts => by cases h0; exact ⟨rfl, hts⟩⟩

theorem law_seq {E1 E2 : Enc} {D1 D2 : Dec} (h1 : Law E1 D1) (h2 : Law E2 D2) (l1 : Local D1) :
    Law (Enc.seq E1 E2) (Dec.seq D1 D2) :=
  lawX_iff_law.mp <| LawX.seq h1 l1 (lawX_iff_law.mpr h2) (fun _ _ _ _ _ _ _ _ => ⟨trivial, trivial⟩)
    (fun _ _ _ _ _ _ h => h ▸ rfl)

theorem law_repeat {E : Enc} {Dd : Dec} (h : Law E Dd) (l : Local Dd) :
    ∀ n, Law (encRepeat E n) (decRepeat Dd n)
  | 0 => law_nil
  | n + 1 => encRepeat_succ_seq E n ▸ decRepeat_succ_seq Dd n ▸ law_seq h (law_repeat h l n) l

theorem local_seq {D1 D2 : Dec} (h1 : Local D1) (h2 : Local D2) : Local (Dec.seq D1 D2) :=
  h1.bind fun t => h2.bind fun ts => localG_pure (t ++ ts)

end Rtcm.CodecLaw
