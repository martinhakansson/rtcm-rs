import Rtcm.Proofs.CurLaws
import Rtcm.Proofs.DecEqns
import Rtcm.Proofs.EncEqns
/-!
`utf8Enc` is core Lean's `String.utf8EncodeChar` on scalar values (`utf8Enc_eq`), so validity is that
of core's verified validator.  The three writers (`putBytes`, `strEncode`, `text1029Encode`) are
layouts (Proofs/Layout), so what they do to the cursor and what a reader finds are the laws of
`putAll`; the readers are followed along `Reads`.  The 1029 text is read with `par.data()`, whole
bytes at `offset / 8`; `parseBytes_aligned` says that byte-aligned reads return the buffer bytes.
-/
namespace Rtcm.TextLaws
open Rtcm.Bits Rtcm.Text Rtcm.CurLaws Rtcm.Layout

/-- a Unicode scalar value, the range of Rust's `char` -/
def Scalar (c : Nat) : Prop := c < 0x110000 ∧ ¬ (0xD800 ≤ c ∧ c ≤ 0xDFFF)

theorem scalar_valid {c : Nat} (h : Scalar c) : c.isValidChar := by
  unfold Nat.isValidChar
  unfold Scalar at h
  omega

theorem val_ofNat {c : Nat} (h : Scalar c) : (Char.ofNat c).val.toNat = c := by
  have hv := scalar_valid h
  have hlt : c < UInt32.size := by
    unfold Scalar at h
    simp only [UInt32.size]
    omega
  simp only [Char.ofNat, hv, dite_true, Char.ofNatAux]
  rfl

theorem utf8Enc_eq {c : Nat} (h : Scalar c) :
    (utf8Enc c).map UInt8.ofNat = String.utf8EncodeChar (Char.ofNat c) := by
  unfold String.utf8EncodeChar
  simp only [val_ofNat h]
  unfold utf8Enc
  have h' := h
  unfold Scalar at h'
  by_cases h1 : c < 0x80
  · have h1' : c ≤ 0x7f := by omega
    rw [if_pos h1, if_pos h1']
    rfl
  · have h1' : ¬ c ≤ 0x7f := by omega
    rw [if_neg h1, if_neg h1']
    by_cases h2 : c < 0x800
    · have h2' : c ≤ 0x7ff := by omega
      rw [if_pos h2, if_pos h2']
      have e1 : c / 64 % 0x20 = c / 64 := Nat.mod_eq_of_lt (by omega)
      simp only [List.map_cons, List.map_nil, e1, Nat.add_comm]
    · have h2' : ¬ c ≤ 0x7ff := by omega
      rw [if_neg h2, if_neg h2']
      by_cases h3 : c < 0x10000
      · have h3' : c ≤ 0xffff := by omega
        rw [if_pos h3, if_pos h3']
        have e1 : c / 4096 % 0x10 = c / 4096 := Nat.mod_eq_of_lt (by omega)
        simp only [List.map_cons, List.map_nil, e1, Nat.add_comm]
      · have h3' : ¬ c ≤ 0xffff := by omega
        rw [if_neg h3, if_neg h3']
        have e1 : c / 262144 % 0x08 = c / 262144 := Nat.mod_eq_of_lt (by omega)
        simp only [List.map_cons, List.map_nil, e1, Nat.add_comm]

theorem toByteArray_list_eq (bs : List UInt8) : bs.toByteArray = ByteArray.mk bs.toArray :=
  ByteArray.ext List.data_toByteArray

theorem flatMap_utf8Enc_eq (l : List Nat) (h : ∀ c ∈ l, Scalar c) :
    (l.flatMap utf8Enc).map UInt8.ofNat = (l.map Char.ofNat).flatMap String.utf8EncodeChar := by
  induction l with
  | nil => rfl
  | cons c cs ih =>
    simp only [List.flatMap_cons, List.map_append, List.map_cons]
    rw [utf8Enc_eq (h c (by simp)), ih (fun x hx => h x (by simp [hx]))]

theorem validUtf8_flatMap (l : List Nat) (h : ∀ c ∈ l, Scalar c) :
    validUtf8 (l.flatMap utf8Enc) = true := by
  unfold validUtf8
  rw [ByteArray.validateUTF8_eq_true_iff]
  refine .intro (l.map Char.ofNat) ?_
  unfold toByteArray List.utf8Encode
  rw [flatMap_utf8Enc_eq l h, toByteArray_list_eq]

theorem utf8Enc_length (c : Nat) : (utf8Enc c).length = utf8Len c := by
  unfold utf8Enc utf8Len
  by_cases h1 : c < 0x80
  · rw [if_pos h1, if_pos h1]; rfl
  · rw [if_neg h1, if_neg h1]
    by_cases h2 : c < 0x800
    · rw [if_pos h2, if_pos h2]; rfl
    · rw [if_neg h2, if_neg h2]
      by_cases h3 : c < 0x10000
      · rw [if_pos h3, if_pos h3]; rfl
      · rw [if_neg h3, if_neg h3]; rfl

def byteItems (bs : List Nat) : List Item := bs.map fun b => .fld ⟨.u, 8⟩ 8 b

theorem putBytes_putAll (cfg : Cfg) : ∀ bs : List Nat, putBytes cfg bs = putAll cfg (byteItems bs)
  | [] => rfl
  | b :: bs => by
    funext c
    rw [putBytes_cons, putU_eq, putBytes_putAll cfg bs]
    rfl

theorem byteItems_ok {bs : List Nat} (hb : ∀ b ∈ bs, b < 256) : ∀ i ∈ byteItems bs, i.Ok := by
  intro i hi
  obtain ⟨b, hm, rfl⟩ := List.mem_map.mp hi
  exact ⟨(by decide : Bits.Widths 8 8), hb b hm⟩

theorem fail_not_mem_byteItems (bs : List Nat) (e : RtcmError) : Item.fail e ∉ byteItems bs :=
  fun h => by obtain ⟨_, _, h⟩ := List.mem_map.mp h; cases h

theorem bits_byteItems : ∀ bs : List Nat, bits (byteItems bs) = 8 * bs.length
  | [] => rfl
  | _ :: bs => by
    rw [byteItems, List.map_cons, bits, ← byteItems, bits_byteItems bs, List.length_cons, Nat.mul_succ,
      Nat.add_comm]

theorem parseBytes_reads (cfg : Cfg) (D : List Nat) : ∀ (bs : List Nat) (o : Nat), (∀ b ∈ bs, b < 256) →
    Reads cfg D o (byteItems bs) →
    parseBytes cfg bs.length ⟨D, o⟩ = .ok (bs, ⟨D, o + 8 * bs.length⟩)
  | [], _, _, _ => rfl
  | b :: bs, o, hb, hr => by
    obtain ⟨r1, r2⟩ := hr
    rw [List.length_cons, parseBytes_succ, parseU_eq, r1,
      readValue_wireValue_u 8 8 b (hb b (List.mem_cons_self ..)), Res.bind_ok]
    dsimp only
    rw [parseBytes_reads cfg D bs (o + 8) (fun x hx => hb x (List.mem_cons_of_mem _ hx)) r2, Res.bind_ok,
      Nat.mul_succ, Nat.add_assoc, Nat.add_comm 8]

theorem putBytes_ok (cfg : Cfg) :
    ∀ (bs : List Nat) (c : Cur), Good c → (∀ b ∈ bs, b < 256) →
      c.off + 8 * bs.length ≤ 8 * c.data.length → ∃ c', putBytes cfg bs c = .ok c' := by
  intro bs c hg hb hroom
  rw [putBytes_putAll]
  exact putAll_fits hg (byteItems_ok hb) (by rw [bits_byteItems]; exact hroom) (fail_not_mem_byteItems bs)

theorem putBytes_total (cfg : Cfg) :
    ∀ (bs : List Nat) (c : Cur), Good c → (∀ b ∈ bs, b < 256) →
      (∃ c', putBytes cfg bs c = .ok c') ∨ putBytes cfg bs c = .err .bufferOverflow := by
  intro bs c hg hb
  rw [putBytes_putAll]
  rcases putAll_total hg (byteItems_ok hb) with h | ⟨e, he, _⟩ | h
  · exact .inl h
  · exact absurd he (fail_not_mem_byteItems bs e)
  · exact .inr h

theorem map_pushNorm_eq (b : List Nat) (hb : ∀ x ∈ b, 1 ≤ x ∧ x ≤ 255) : b.map pushNorm = b := by
  refine (List.map_congr_left fun x hx => ?_).trans (List.map_id' b)
  rw [pushNorm, if_neg (by have := (hb x hx).1; omega)]

theorem mod256_of_lt {n lenBits : Nat} (h8 : lenBits ≤ 8) (h : n < 2 ^ lenBits) : n % 256 = n :=
  Nat.mod_eq_of_lt (Nat.lt_of_lt_of_le h (Nat.pow_le_pow_right (by decide) h8))

/-- the layout of `df_88591_string_with_len!` -/
def strItems (lenBits : Nat) (b : List Nat) : List Item :=
  .fld ⟨.u, 8⟩ lenBits (b.length % 256) :: byteItems b

theorem strEncode_putAll (cfg : Cfg) (lenBits : Nat) (b : List Nat) :
    strEncode cfg lenBits b = putAll cfg (strItems lenBits b) := by
  funext c
  rw [strEncode_eq, putBytes_putAll, putU_eq]
  rfl

theorem strItems_ok {lenBits : Nat} (h1 : 1 ≤ lenBits) (h8 : lenBits ≤ 8) {b : List Nat}
    (hb : ∀ x ∈ b, x < 256) : ∀ i ∈ strItems lenBits b, i.Ok := by
  intro i hi
  rcases List.mem_cons.mp hi with rfl | hi
  · exact ⟨⟨by decide, by decide, h1, h8⟩, Nat.mod_lt _ (by decide)⟩
  · exact byteItems_ok hb i hi

theorem strEncode_law (cfg : Cfg) (cap lenBits : Nat) (h1 : 1 ≤ lenBits) (h8 : lenBits ≤ 8)
    (hcap : cap < 2 ^ lenBits) (b : List Nat) (hb : ∀ x ∈ b, 1 ≤ x ∧ x ≤ 255)
    (hlen : b.length ≤ cap) (c c' : Cur) (hg : Good c)
    (h : strEncode cfg lenBits b c = .ok c') :
    Ext c c' ∧ c'.off = c.off + lenBits + 8 * b.length ∧
    Written c c' fun D =>
      strDecode cfg cap lenBits ⟨D, c.off⟩ = .ok (b, ⟨D, c'.off⟩) := by
  have hlt : b.length < 2 ^ lenBits := by omega
  have hb' : ∀ x ∈ b, x < 256 := fun x hx => by have := (hb x hx).2; omega
  rw [strEncode_putAll] at h
  obtain ⟨hext, hoff, hr⟩ := putAll_law hg (strItems_ok h1 h8 hb') (List.cons_ne_nil _ _) h
  rw [strItems, bits, bits_byteItems, ← Nat.add_assoc] at hoff
  refine ⟨hext, hoff, fun D hD ha => ?_⟩
  obtain ⟨r1, r2⟩ := hr D hD ha
  rw [strDecode_eq, parseU_eq, r1, mod256_of_lt h8 hlt, readValue_wireValue_u 8 lenBits _ hlt,
    Res.bind_ok]
  dsimp only
  rw [if_neg (by omega), parseBytes_reads cfg D b _ hb' r2, Res.bind_ok, map_pushNorm_eq b hb, hoff]

theorem strEncode_ok (cfg : Cfg) (lenBits : Nat) (h1 : 1 ≤ lenBits) (h8 : lenBits ≤ 8)
    (b : List Nat) (hb : ∀ x ∈ b, x < 256) (c : Cur) (hg : Good c)
    (hroom : c.off + lenBits + 8 * b.length ≤ 8 * c.data.length) :
    ∃ c', strEncode cfg lenBits b c = .ok c' := by
  rw [strEncode_putAll]
  refine putAll_fits hg (strItems_ok h1 h8 hb) (by rw [strItems, bits, bits_byteItems]; omega) ?_
  intro e he
  rcases List.mem_cons.mp he with h | h
  · cases h
  · exact fail_not_mem_byteItems b e h

theorem fieldValue_byte (D : List Nat) (k : Nat) (hk : k < D.length) (hd : D[k] < 256) :
    fieldValue D (8 * k) 8 = D[k] := by
  apply Nat.eq_of_testBit_eq
  intro m
  rw [testBit_fieldValue]
  by_cases hm : m < 8
  · have e1 : (8 * k + 8 - 1 - m) / 8 = k := by omega
    have e2 : 7 - (8 * k + 8 - 1 - m) % 8 = m := by omega
    simp only [hm, decide_true, Bool.true_and, bitAt, e1, e2]
    rw [List.getD_eq_getElem?_getD, List.getElem?_eq_getElem hk]
    rfl
  · simp only [hm, decide_false, Bool.false_and]
    exact (testBit_false_of_lt_256 hd (by omega)).symm

theorem parseBytes_aligned (cfg : Cfg) (D : List Nat) (hD : ∀ d ∈ D, d < 256) :
    ∀ (n k : Nat), 8 * k + 8 * n ≤ 8 * D.length →
      parseBytes cfg n ⟨D, 8 * k⟩ = .ok ((D.drop k).take n, ⟨D, 8 * k + 8 * n⟩) := by
  intro n
  induction n with
  | zero => intro k _; simp [parseBytes]
  | succ n ih =>
    intro k hfit
    have hk : k < D.length := by omega
    rw [parseBytes_succ, parseU_eq, parseF_at cfg ⟨.u, 8⟩ (len := 8) (by decide) D (8 * k) (by omega),
      Res.bind_ok]
    dsimp only
    rw [show 8 * k + 8 = 8 * (k + 1) by omega, ih (k + 1) (by omega), Res.bind_ok]
    simp only [readValue, fieldValue_byte D k hk (hD _ (List.getElem_mem hk))]
    rw [List.drop_eq_getElem_cons hk, List.take_succ_cons,
      show 8 * (k + 1) + 8 * n = 8 * k + 8 * (n + 1) by omega]

/-- the layout of the 1029 text -/
def textItems (b : List Nat) : List Item :=
  if b.length > 255 ∨ charCount b > 127 then [.fail .bufferOverflow]
  else .fld ⟨.u, 8⟩ 7 (charCount b) :: .fld ⟨.u, 8⟩ 8 b.length :: byteItems b

theorem text1029Encode_putAll (cfg : Cfg) (b : List Nat) :
    text1029Encode cfg b = putAll cfg (textItems b) := by
  funext c
  rw [text1029Encode_eq, textItems]
  split
  · rfl
  · rw [putBytes_putAll, putU_eq]
    rfl

theorem textItems_ok {b : List Nat} (hb : ∀ x ∈ b, x < 256) : ∀ i ∈ textItems b, i.Ok := by
  intro i hi
  unfold textItems at hi
  split at hi
  · rw [List.mem_singleton.mp hi]; exact ⟨trivial, trivial⟩
  · next hlim =>
    rcases List.mem_cons.mp hi with rfl | hi
    · exact ⟨(by decide : Bits.Widths 8 7), (by omega : charCount b < 256)⟩
    · rcases List.mem_cons.mp hi with rfl | hi
      · exact ⟨(by decide : Bits.Widths 8 8), (by omega : b.length < 256)⟩
      · exact byteItems_ok hb i hi

/-- The reader takes whole bytes from `offset / 8` (`par.data()`), so the cursor after the two count
fields must be byte-aligned. -/
theorem text1029_law (cfg : Cfg) (b : List Nat) (hb : ∀ x ∈ b, x < 256)
    (hutf : validUtf8 b = true) (c c' : Cur) (hg : Good c) (hal : (c.off + 15) % 8 = 0)
    (h : text1029Encode cfg b c = .ok c') :
    Ext c c' ∧ c'.off = c.off + 15 + 8 * b.length ∧
    Written c c' fun D => (∀ d ∈ D, d < 256) →
      text1029Decode cfg ⟨D, c.off⟩ = .ok (b, ⟨D, c'.off⟩) := by
  rw [text1029Encode_putAll] at h
  have hne : textItems b ≠ [] := by unfold textItems; split <;> exact List.cons_ne_nil _ _
  obtain ⟨hext, hoff, hr⟩ := putAll_law hg (textItems_ok hb) hne h
  by_cases hlim : b.length > 255 ∨ charCount b > 127
  · rw [textItems, if_pos hlim] at h; cases h
  rw [textItems, if_neg hlim] at hoff hr
  have hoff' : c'.off = c.off + 15 + 8 * b.length := by
    rw [hoff, bits, bits, bits_byteItems]; omega
  refine ⟨hext, hoff', fun D hD ha hDg => ?_⟩
  obtain ⟨r1, r2, r3⟩ := hr D hD ha
  have hpb := parseBytes_reads cfg D b _ hb r3
  -- the bytes sit at byte index `(c.off + 15) / 8`
  have hc2 : c.off + 7 + 8 = 8 * ((c.off + 15) / 8) := by omega
  have hfit := hext.fit
  rw [hc2, parseBytes_aligned cfg D hDg b.length _ (by omega)] at hpb
  simp only [Res.ok.injEq, Prod.mk.injEq] at hpb
  rw [text1029Decode_eq, parseU_eq, r1, readValue_wireValue_u 8 7 _ (by show _ < 128; omega),
    Res.bind_ok]
  dsimp only
  rw [parseU_eq, r2, readValue_wireValue_u 8 8 _ (by show _ < 256; omega), Res.bind_ok]
  dsimp only
  have hdiv : (c.off + 7 + 8) / 8 = (c.off + 15) / 8 := by omega
  rw [hdiv, if_neg (by simp only [List.length_drop]; omega), hpb.1, if_pos hutf, hoff']
  congr 3
  omega

end Rtcm.TextLaws
