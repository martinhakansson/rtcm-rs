import Rtcm.Proofs.Frame
import Rtcm.Proofs.Crc
/-!
Every payload of length 0..=1023, wrapped by `mkFrame` with any reserved bits, is accepted,
and the accepted frame reports exactly that payload and checksum, whatever follows it.
-/
namespace Rtcm

theorem testBit_mod256 (x t : Nat) : (x % 256).testBit t = (decide (t < 8) && x.testBit t) := by
  have : (256 : Nat) = 2 ^ 8 := by decide
  rw [this, Nat.testBit_mod_two_pow]

theorem header_len (r L : Nat) (hL : L < 1024) :
    ((((r <<< 2) ||| (L >>> 8)) % 256 &&& 3) <<< 8) ||| (L % 256) = L := by
  have h3 : (3 : Nat) = 2 ^ 2 - 1 := rfl
  have h256 : (256 : Nat) = 2 ^ 8 := rfl
  have hr : r <<< 2 % 2 ^ 2 = 0 := by rw [Nat.shiftLeft_eq, Nat.mul_mod_left]
  rw [h3, Nat.and_two_pow_sub_one_eq_mod, h256, Nat.mod_mod_of_dvd _ (by decide : 2 ^ 2 ∣ 2 ^ 8),
    Nat.or_mod_two_pow, hr, Nat.zero_or,
    ← Nat.shiftLeft_add_eq_or_of_lt (Nat.mod_lt _ (by decide)), Nat.shiftLeft_eq, Nat.shiftRight_eq_div_pow]
  omega

theorem lenField_header (r L : Nat) (hL : L < 1024) (rest : List UInt8) :
    lenField (frameHeader r L ++ rest) = L := by
  rw [lenField_append _ _ (by simp [frameHeader])]
  simp only [lenField, frameHeader, byteAt, List.getD_cons_succ, List.getD_cons_zero,
    UInt8.toNat_ofNat']
  have h2 : L % 256 % 2 ^ 8 = L % 256 := by omega
  have h1 : ((r % 64) <<< 2 ||| L >>> 8) % 2 ^ 8 = ((r % 64) <<< 2 ||| L >>> 8) % 256 := by rfl
  rw [h1, h2]
  exact header_len (r % 64) L hL

/-- The frame that `frameNew` reports for `mkFrame resv payload`. -/
def mkFrameResult (resv : Nat) (payload : List UInt8) : Frame :=
  { frameData := mkFrame resv payload
    data := payload
    crc := crc24q (frameHeader resv payload.length ++ payload)
    number := if 2 ≤ payload.length
              then some ((byteAt payload 0 <<< 4) ||| (byteAt payload 1 >>> 4)) else none }

theorem length_mkFrame (resv : Nat) (payload : List UInt8) :
    (mkFrame resv payload).length = payload.length + 6 := by
  simp [mkFrame, frameHeader, crcBytes]

theorem frameNew_mkFrame_nil (resv : Nat) (payload : List UInt8) (hL : payload.length ≤ 1023) :
    frameNew (mkFrame resv payload) = .ok (mkFrameResult resv payload) := by
  have hml := length_mkFrame resv payload
  have hbl : (frameHeader resv payload.length ++ payload).length = payload.length + 3 := by
    simp [frameHeader]
  have hh : (frameHeader resv payload.length).length = 3 := rfl
  have hlen : lenField (mkFrame resv payload) = payload.length := by
    rw [mkFrame, List.append_assoc]
    exact lenField_header resv payload.length (by omega) _
  have hbe : be24 (mkFrame resv payload) (payload.length + 3) =
      crc24q (frameHeader resv payload.length ++ payload) := by
    rw [← hbl]
    exact (be24_append_right _ _ 0).trans (be24_crcBytes_zero _ (crc24q_lt _))
  rw [frameNew_ok_iff, hlen, hbe, List.take_of_length_le (Nat.le_of_eq hml)]
  refine ⟨by omega, by simp [mkFrame, frameHeader, byteAt], by omega, ?_, ?_⟩
  · exact congrArg crc24q (List.take_left' hbl).symm
  · have hd : ((mkFrame resv payload).drop 3).take payload.length = payload := by
      rw [mkFrame, List.append_assoc, List.drop_left' hh, List.take_left' rfl]
    rw [mkFrameResult, hd]
    congr 1
    split
    · rw [mkFrame, List.append_assoc, byteAt_append_right' _ _ 3 (Nat.le_of_eq hh),
        byteAt_append_right' _ _ 4 (by rw [hh]; omega), hh, byteAt_append_left _ _ _ (by omega),
        byteAt_append_left _ _ _ (by omega)]
    · rfl

theorem frameNew_mkFrame (resv : Nat) (payload sfx : List UInt8) (hL : payload.length ≤ 1023) :
    frameNew (mkFrame resv payload ++ sfx) = .ok (mkFrameResult resv payload) :=
  frameNew_append_ok _ sfx _ (frameNew_mkFrame_nil resv payload hL)

end Rtcm
