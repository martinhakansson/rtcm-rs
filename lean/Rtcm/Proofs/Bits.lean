import Rtcm.Proofs.BitValue
import Rtcm.Proofs.BitLoop
/-!
`put` and `parse` under `Widths` (`8 ≤ w ≤ 64`, `1 ≤ len ≤ w`) when the field fits: the byte loops (Proofs/BitLoop) joined with
`sign_fix_rev` / `sign_fix` (Proofs/BitValue).
-/
namespace Rtcm.Bits

/-- It succeeds for every `v`; the bits are stated for carrier patterns (`put_length`, `put_bytes`,
`put_below` hold for every `v`). -/
theorem put_ok (cfg : Cfg) (it : IT) (data : List Nat) (off v len : Nat) (hW : Widths it.w len)
    (hfit : off + len ≤ 8 * data.length) :
    ∃ data', put cfg it data off v len = .ok (data', off + len) ∧
      ∀ g, v < 2 ^ it.w →
        bitAt data' g =
          if off ≤ g ∧ g < off + len then wireBit it len v (g - off) else bitAt data g := by
  obtain ⟨hw8, hw64, h1, hlw⟩ := hW
  obtain ⟨value, hsf, hwire, hlt⟩ := signFixRev_spec cfg it v h1 hlw
  unfold put
  rw [if_neg (by omega), if_neg (by omega), hsf, setup_ok cfg h1 (by omega)]
  simp only [Res.bind_ok]
  have hq : (setupOf off len).sti = off / 8 := rfl
  have ha : (setupOf off len).lhSt = off % 8 := rfl
  have hgeo := setupOf_geom (off := off) h1
  -- the loop rewrites `data[off / 8 ..]`, described in positions counted from byte `off / 8`
  obtain ⟨out, ho, hob⟩ := putLoop_spec cfg it (value := value) hgeo hlw hw8
    (data.drop (off / 8)) 0 len (fun _ => by omega) (Nat.zero_le _)
    (setupOf_fits h1 hfit)
  rw [hq, ho]
  refine ⟨_, rfl, fun g h => ?_⟩
  simp only [ha, Nat.mul_zero, Nat.zero_add] at hob
  rw [bitAt_take_append (by omega)]
  -- back to global positions: bytes before `off / 8` are copied; from there on `g` is position
  -- `g - 8 (off / 8)` of the loop, which lies in `off % 8 ..< off % 8 + len` exactly when `g` lies in
  -- the field, and the value bit written there, `off % 8 + len - 1 - (g - 8 (off / 8))`, is bit
  -- `len - 1 - (g - off)` of `value % 2 ^ len = wireValue it len v`
  by_cases hg : g < 8 * (off / 8)
  · rw [if_pos hg, if_neg (by omega)]
  · have e : off % 8 ≤ g - 8 * (off / 8) ∧ g - 8 * (off / 8) < off % 8 + len ↔ off ≤ g ∧ g < off + len := by
      omega
    rw [if_neg hg, hob _ (hlt h), bitAt_drop]
    simp only [e]
    by_cases hf : off ≤ g ∧ g < off + len
    · rw [if_pos hf, if_pos hf, wireBit, ← hwire, Nat.testBit_mod_two_pow,
        decide_eq_true (show len - 1 - (g - off) < len by omega), Bool.true_and]
      congr 1
      omega
    · rw [if_neg hf, if_neg hf]
      congr 1
      omega

theorem put_overflow (cfg : Cfg) (it : IT) (data : List Nat) (off v len : Nat)
    (h : data.length * 8 < off + len) : put cfg it data off v len = .err .bufferOverflow := by
  rw [put, if_pos h]

theorem parse_overflow (cfg : Cfg) (it : IT) (data : List Nat) (off len : Nat)
    (h : data.length * 8 < off + len) : parse cfg it data off len = .err .bufferOverflow := by
  rw [parse, if_pos h]

theorem parse_ok (cfg : Cfg) (it : IT) (data : List Nat) (off len : Nat)
    (hw64 : it.w ≤ 64) (h1 : 1 ≤ len) (hlw : len ≤ it.w)
    (hfit : off + len ≤ 8 * data.length) :
    parse cfg it data off len = .ok (readValue it len (fieldValue data off len), off + len) := by
  unfold parse
  rw [if_neg (by omega), if_neg (by omega), setup_ok cfg h1 (by omega)]
  simp only [Res.bind_ok]
  have hsti : (setupOf off len).sti = off / 8 := rfl
  rw [hsti, parseLoop_fieldValue cfg it h1 hlw hfit, Res.bind_ok,
    signFix_eq cfg it h1 hlw (fieldValue_lt data off len)]
  rfl

theorem parse_ok_iff (cfg : Cfg) (it : IT) (data : List Nat) (off len : Nat)
    (hw64 : it.w ≤ 64) (h1 : 1 ≤ len) (hlw : len ≤ it.w) {v o : Nat} :
    parse cfg it data off len = .ok (v, o) ↔
      off + len ≤ 8 * data.length ∧ o = off + len ∧ v = readValue it len (fieldValue data off len) := by
  constructor
  · intro h
    obtain ⟨rfl, hfit⟩ := parse_of_ok h
    rw [parse_ok cfg it data off len hw64 h1 hlw hfit] at h
    cases h
    exact ⟨hfit, rfl, rfl⟩
  · rintro ⟨hfit, rfl, rfl⟩
    exact parse_ok cfg it data off len hw64 h1 hlw hfit

theorem bitAt_put (cfg : Cfg) (it : IT) (data : List Nat) (off v len : Nat) (hW : Widths it.w len)
    (hfit : off + len ≤ 8 * data.length)
    {data' : List Nat} {c : Nat} (hput : put cfg it data off v len = .ok (data', c)) (g : Nat)
    (h : v < 2 ^ it.w) :
    bitAt data' g =
      if off ≤ g ∧ g < off + len then wireBit it len v (g - off) else bitAt data g := by
  obtain ⟨data'', h', hb⟩ := put_ok cfg it data off v len hW hfit
  rw [hput] at h'
  cases h'
  exact hb g h

theorem fieldValue_put (cfg : Cfg) (it : IT) (data : List Nat) (off v len : Nat)
    (hW : Widths it.w len)
    (hfit : off + len ≤ 8 * data.length) (hv : v < 2 ^ it.w)
    {data' : List Nat} {c : Nat} (hput : put cfg it data off v len = .ok (data', c)) :
    fieldValue data' off len = wireValue it len v := by
  apply Nat.eq_of_testBit_eq
  intro m
  rw [testBit_fieldValue, bitAt_put cfg it data off v len hW hfit hput _ hv]
  by_cases hm : m < len
  · rw [decide_eq_true hm, Bool.true_and, if_pos (by omega), wireBit]
    congr 1
    omega
  · have : wireValue it len v < 2 ^ m :=
      Nat.lt_of_lt_of_le (wireValue_lt it hW.pos v) (Nat.pow_le_pow_right (by decide) (by omega))
    rw [decide_eq_false hm, Bool.false_and, Nat.testBit_lt_two_pow this]

/-- for every carrier pattern, representable or not, and whatever the buffer held -/
theorem parse_after_put (cfg : Cfg) (it : IT) (data : List Nat) (off v len : Nat)
    (hW : Widths it.w len)
    (hfit : off + len ≤ 8 * data.length) (hv : v < 2 ^ it.w)
    {data' : List Nat} {c : Nat} (hput : put cfg it data off v len = .ok (data', c)) :
    parse cfg it data' off len = .ok (readValue it len (wireValue it len v), off + len) := by
  have hl := put_length hput
  rw [parse_ok cfg it data' off len hW.w64 hW.pos hW.le (by omega),
    fieldValue_put cfg it data off v len hW hfit hv hput]

end Rtcm.Bits
