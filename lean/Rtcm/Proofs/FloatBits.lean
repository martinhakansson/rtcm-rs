import Rtcm.Proofs.Float
/-!
Every finite value produced by `roundMag` (`rmv` below the overflow threshold) is canonical (`Canon`)
and so survives `toBits` / `ofBits`, including the sign (also of zero).
-/
namespace Rtcm.SoftFloat

/-- canonical representations of the finite magnitudes of a format -/
inductive Canon (fmt : Fmt) (m : ℚ) : Prop
  | zero : m = 0 → Canon fmt m
  | sub (n : Nat) : 0 < n → n < 2 ^ mantBits fmt →
      m = (n : ℚ) * pow2 (fmt.emin - (mantBits fmt : Int)) → Canon fmt m
  | norm (n : Nat) (e : Int) : 2 ^ mantBits fmt ≤ n → n < 2 * 2 ^ mantBits fmt →
      fmt.emin ≤ e → e ≤ fmt.emax →
      m = (n : ℚ) * pow2 (e - (mantBits fmt : Int)) → Canon fmt m

theorem rmv_canon (fmt : Fmt) (hg : fmt.Good) (y : ℚ) (hy : 0 ≤ y)
    (h : rmv fmt y < omega fmt) : Canon fmt (rmv fmt y) := by
  rcases hy.eq_or_lt with h0 | hpos
  · subst h0; exact .zero (rmv_zero fmt)
  have hp : fmt.p = mantBits fmt + 1 := by have := hg.p_ge; unfold mantBits; omega
  have hle := signif_le fmt hpos
  have hnorm := le_signif fmt (by omega) hpos
  have ht : texp fmt y = max (ilog2 y) fmt.emin - (mantBits fmt : Int) := by unfold texp; omega
  obtain ⟨N, hN⟩ := Int.eq_ofNat_of_zero_le (signif_nonneg fmt hy)
  rw [rmv_eq_signif, hN, Int.cast_natCast] at h ⊢
  rw [hN, hp] at hle hnorm
  have hpt := pow2_pos (texp fmt y)
  have hpe := two_pow_mul_pow2 (mantBits fmt) (texp fmt y)
  generalize texp fmt y = t at *
  obtain ⟨e, he⟩ : ∃ e, e = max (ilog2 y) fmt.emin := ⟨_, rfl⟩
  rw [← he] at ht
  rcases Nat.eq_zero_or_pos N with rfl | hNpos
  · exact .zero (by simp)
  rcases Nat.lt_or_ge N (2 ^ mantBits fmt) with hlt | hge
  · -- subnormal: no leading bit, so `y` is below the normal range
    refine .sub N hNpos hlt ?_
    have : ilog2 y < fmt.emin := by
      by_contra hc
      have := hnorm (not_lt.mp hc)
      rw [Nat.add_sub_cancel] at this
      have : 2 ^ mantBits fmt ≤ N := by exact_mod_cast this
      omega
    rw [show t = fmt.emin - (mantBits fmt : Int) by omega]
  have hN2 : N ≤ 2 * 2 ^ mantBits fmt := by rw [← Nat.pow_succ']; exact_mod_cast hle
  rcases hN2.lt_or_eq with hlt2 | rfl
  · refine .norm N e hge hlt2 (by omega) ?_ (by rw [show t = e - (mantBits fmt : Int) by omega])
    have h1 : pow2 (t + mantBits fmt) ≤ (N : ℚ) * pow2 t :=
      hpe ▸ mul_le_mul_of_nonneg_right (by exact_mod_cast hge) hpt.le
    have := pow2_lt_pow2_iff.mp (h1.trans_lt h)
    omega
  · -- carry into the next binade
    have hval : ((2 * 2 ^ mantBits fmt : ℕ) : ℚ) * pow2 t = pow2 (e + 1) := by
      push_cast; rw [mul_assoc, hpe, ← pow2_succ]; congr 1; omega
    rw [hval] at h ⊢
    refine .norm (2 ^ mantBits fmt) (e + 1) le_rfl (by omega) (by omega)
      (by have := pow2_lt_pow2_iff.mp h; omega) ?_
    push_cast; rw [two_pow_mul_pow2]; congr 1; omega

def pack (fmt : Fmt) (s : Bool) (ex mant : Nat) : Nat :=
  (if s then 2 ^ (mantBits fmt + fmt.ebits) else 0) + ex * 2 ^ mantBits fmt + mant

private theorem field_lt {A B ex mant : Nat} (hex : ex < B) (hm : mant < A) :
    ex * A + mant < A * B := by
  have := Nat.mul_le_mul_right A hex
  rw [Nat.succ_mul, Nat.mul_comm B A] at this
  omega

private theorem bits_decompose (A B ex mant σ : Nat) (hex : ex < B) (hm : mant < A) :
    (σ * (A * B) + ex * A + mant) % A = mant ∧
    ((σ * (A * B) + ex * A + mant) / A) % B = ex ∧
    (σ * (A * B) + ex * A + mant) / (A * B) = σ := by
  have hA : 0 < A := by omega
  have hB : 0 < B := by omega
  have e1 : σ * (A * B) + ex * A + mant = mant + (σ * B + ex) * A := by ring
  refine ⟨?_, ?_, ?_⟩
  · rw [e1, Nat.add_mul_mod_self_right, Nat.mod_eq_of_lt hm]
  · rw [e1, Nat.add_mul_div_right _ _ hA, Nat.div_eq_of_lt hm, Nat.zero_add,
      Nat.add_comm, Nat.add_mul_mod_self_right, Nat.mod_eq_of_lt hex]
  · rw [Nat.add_assoc, Nat.add_comm, Nat.add_mul_div_right _ _ (Nat.mul_pos hA hB),
      Nat.div_eq_of_lt (field_lt hex hm), Nat.zero_add]

private theorem bits_lt (A B ex mant σ : Nat) (hex : ex < B) (hm : mant < A) (hσ : σ < 2) :
    σ * (A * B) + ex * A + mant < 2 * (A * B) := by
  have h1 := field_lt hex hm
  have h2 := Nat.mul_le_mul_right (A * B) (Nat.le_of_lt_succ hσ)
  omega

private theorem pack_eq (fmt : Fmt) (s : Bool) (ex mant : Nat) :
    pack fmt s ex mant = (if s then 1 else 0) * (2 ^ mantBits fmt * 2 ^ fmt.ebits)
      + ex * 2 ^ mantBits fmt + mant := by
  unfold pack; cases s <;> simp [Nat.pow_add]

theorem ofBits_pack (fmt : Fmt) (s : Bool) (ex mant : Nat) (hex : ex < 2 ^ fmt.ebits)
    (hm : mant < 2 ^ mantBits fmt) :
    ofBits fmt (pack fmt s ex mant) =
      if ex = 2 ^ fmt.ebits - 1 then (if mant = 0 then .inf s else .nan)
      else if ex = 0 then .fin s ((mant : ℚ) * pow2 (fmt.emin - (mantBits fmt : Int)))
      else .fin s (((2 ^ mantBits fmt + mant : Nat) : ℚ) *
        pow2 ((ex : Int) - bias fmt - (mantBits fmt : Int))) := by
  obtain ⟨h1, h2, h3⟩ := bits_decompose (2 ^ mantBits fmt) (2 ^ fmt.ebits) ex mant
    (if s then 1 else 0) hex hm
  rw [← pack_eq] at h1 h2 h3
  rw [← Nat.pow_add] at h3
  unfold ofBits
  simp only [h1, h2, h3]
  cases s <;> simp

theorem pack_lt (fmt : Fmt) (s : Bool) (ex mant : Nat) (hex : ex < 2 ^ fmt.ebits)
    (hm : mant < 2 ^ mantBits fmt) : pack fmt s ex mant < 2 ^ totalBits fmt := by
  have := bits_lt (2 ^ mantBits fmt) (2 ^ fmt.ebits) ex mant (if s then 1 else 0) hex hm
    (by cases s <;> decide)
  rw [← pack_eq, ← Nat.pow_add, ← Nat.pow_succ'] at this
  rwa [totalBits, show 1 + fmt.ebits + mantBits fmt = mantBits fmt + fmt.ebits + 1 by omega]

theorem toBits_zero (fmt : Fmt) (s : Bool) : toBits fmt (.fin s 0) = pack fmt s 0 0 := by
  unfold toBits pack; simp

private theorem floor_mul_div_pow2 (n : Nat) (t : Int) :
    ((n : ℚ) * pow2 t / pow2 t).floor.toNat = n := by
  rw [mul_div_cancel_right₀ _ (pow2_ne t)]
  show ⌊(n : ℚ)⌋.toNat = n
  rw [Int.floor_natCast, Int.toNat_natCast]

private theorem natCast_mul_pow2_bounds (mb n : Nat) (e : Int) :
    (n < 2 ^ mb → (n : ℚ) * pow2 (e - mb) < pow2 e) ∧
    (2 ^ mb ≤ n → pow2 e ≤ (n : ℚ) * pow2 (e - mb)) ∧
    (n < 2 * 2 ^ mb → (n : ℚ) * pow2 (e - mb) < pow2 (e + 1)) := by
  have hpt := pow2_pos (e - mb)
  have hpe : (2 : ℚ) ^ mb * pow2 (e - mb) = pow2 e := by rw [two_pow_mul_pow2, sub_add_cancel]
  refine ⟨fun h => ?_, fun h => ?_, fun h => ?_⟩
  · rw [← hpe]; exact mul_lt_mul_of_pos_right (by exact_mod_cast h) hpt
  · rw [← hpe]; exact mul_le_mul_of_nonneg_right (by exact_mod_cast h) hpt.le
  · rw [pow2_succ, ← hpe, ← mul_assoc]; exact mul_lt_mul_of_pos_right (by exact_mod_cast h) hpt

theorem toBits_sub (fmt : Fmt) (s : Bool) (n : Nat) (hn0 : 0 < n)
    (hn : n < 2 ^ mantBits fmt) :
    toBits fmt (.fin s ((n : ℚ) * pow2 (fmt.emin - (mantBits fmt : Int)))) = pack fmt s 0 n := by
  have hx := mul_pos (Nat.cast_pos.mpr hn0) (pow2_pos (fmt.emin - (mantBits fmt : Int)))
  have hlog : ilog2 ((n : ℚ) * pow2 (fmt.emin - (mantBits fmt : Int))) < fmt.emin :=
    pow2_lt_pow2_iff.mp
      ((pow2_ilog2_le _ hx).trans_lt ((natCast_mul_pow2_bounds _ n fmt.emin).1 hn))
  unfold toBits pack
  simp only [hx.ne', if_false, hlog, if_true, floor_mul_div_pow2]
  ring

theorem toBits_norm (fmt : Fmt) (s : Bool) (n : Nat) (e : Int)
    (hn1 : 2 ^ mantBits fmt ≤ n) (hn2 : n < 2 * 2 ^ mantBits fmt) (he : fmt.emin ≤ e) :
    toBits fmt (.fin s ((n : ℚ) * pow2 (e - (mantBits fmt : Int)))) =
      pack fmt s (e + bias fmt).toNat (n - 2 ^ mantBits fmt) := by
  obtain ⟨-, b1, b2⟩ := natCast_mul_pow2_bounds (mantBits fmt) n e
  have hlog := ilog2_eq_of_bracket _ e (b1 hn1) (b2 hn2)
  have hx := (pow2_pos e).trans_le (b1 hn1)
  unfold toBits pack
  simp only [hx.ne', if_false, hlog, not_lt.mpr he, floor_mul_div_pow2]

theorem toBits_canon (fmt : Fmt) (hg : fmt.Good) (s : Bool) (m : ℚ) (hc : Canon fmt m) :
    ∃ ex mant, ex < 2 ^ fmt.ebits - 1 ∧ mant < 2 ^ mantBits fmt ∧
      toBits fmt (.fin s m) = pack fmt s ex mant ∧ ofBits fmt (pack fmt s ex mant) = .fin s m := by
  have hebits := hg.ebits_ge
  have hB : 2 ^ fmt.ebits = 2 * 2 ^ (fmt.ebits - 1) := by
    rw [← Nat.pow_succ']; congr 1; omega
  have hB2 : 2 ^ 1 ≤ 2 ^ (fmt.ebits - 1) := Nat.pow_le_pow_right (by norm_num) (by omega)
  have hA : 0 < 2 ^ mantBits fmt := Nat.pos_of_ne_zero (by positivity)
  rcases hc with h0 | ⟨n, hn0, hn, hm⟩ | ⟨n, e, hn1, hn2, he1, he2, hm⟩
  · subst h0
    refine ⟨0, 0, by omega, hA, toBits_zero fmt s, ?_⟩
    rw [ofBits_pack fmt s 0 0 (by omega) hA, if_neg (by omega), if_pos rfl]; simp
  · subst hm
    refine ⟨0, n, by omega, hn, toBits_sub fmt s n hn0 hn, ?_⟩
    rw [ofBits_pack fmt s 0 n (by omega) hn, if_neg (by omega), if_pos rfl]
  · subst hm
    have hemax := hg.emax_eq
    have hemin := hg.emin_eq
    obtain ⟨X, hX⟩ : ∃ X : Nat, (X : Int) = e + fmt.emax := ⟨(e + fmt.emax).toNat, by omega⟩
    have hXlt : X < 2 ^ fmt.ebits - 1 := by omega
    refine ⟨X, n - 2 ^ mantBits fmt, hXlt, by omega, ?_, ?_⟩
    · rw [toBits_norm fmt s n e hn1 hn2 he1, bias, ← hX, Int.toNat_natCast]
    · rw [ofBits_pack fmt s X _ (by omega) (by omega), if_neg (by omega), if_neg (by omega),
        show 2 ^ mantBits fmt + (n - 2 ^ mantBits fmt) = n by omega,
        show (X : Int) - bias fmt - (mantBits fmt : Int) = e - (mantBits fmt : Int) by
          unfold bias; omega]

theorem ofBits_toBits_rmv (fmt : Fmt) (hg : fmt.Good) (s : Bool) (y : ℚ) (hy : 0 ≤ y)
    (h : rmv fmt y < omega fmt) :
    ofBits fmt (toBits fmt (.fin s (rmv fmt y))) = .fin s (rmv fmt y) := by
  obtain ⟨ex, mant, -, -, e1, e2⟩ := toBits_canon fmt hg s _ (rmv_canon fmt hg y hy h)
  rw [e1, e2]

theorem toBits_lt (fmt : Fmt) (hg : fmt.Good) (s : Bool) (y : ℚ) (hy : 0 ≤ y)
    (h : rmv fmt y < omega fmt) :
    toBits fmt (.fin s (rmv fmt y)) < 2 ^ totalBits fmt := by
  obtain ⟨ex, mant, hex, hm, e1, -⟩ := toBits_canon fmt hg s _ (rmv_canon fmt hg y hy h)
  rw [e1]
  exact pack_lt fmt s ex mant (by omega) hm

end Rtcm.SoftFloat

#print axioms Rtcm.SoftFloat.ofBits_toBits_rmv
#print axioms Rtcm.SoftFloat.toBits_lt
