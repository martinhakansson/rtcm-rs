import Rtcm.Proofs.Crc
import Rtcm.Proofs.Frame
/-!
Bit-level error patterns applied to a frame (`applyErr`), the reduction of acceptance of the
altered frame to `crcRem 0 e = 0` (`applyErr_outcome`), and the classes of patterns for which that
remainder is never zero: bursts of at most 24 bits, odd weight, two bits at distance ≤ 8400 (a
single bit is both a burst and of odd weight); together, weight below four.
-/
namespace Rtcm

/-- Flip in `f` exactly the bits at which `e` is `true` (bit 0 = most significant bit of byte 0). -/
def applyErr (f : List UInt8) (e : List Bool) : List UInt8 :=
  bytesOfBits (xorBits (bitsOfBytes f) e)

/-- Error pattern of `n` bits that is `true` exactly at the positions listed in `ps`. -/
def flipAt (n : Nat) (ps : List Nat) : List Bool := (List.range n).map (fun i => ps.contains i)

/-- An error pattern for an `n`-byte frame that leaves the preamble (bits 0..7) and the length
field (bits 14..23) alone: it may hit the six reserved bits, the payload and the checksum. -/
def Admissible (n : Nat) (e : List Bool) : Prop :=
  e.length = 8 * n ∧ ∀ p, p < 24 → (p < 8 ∨ 14 ≤ p) → e.getD p false = false

instance (n : Nat) (e : List Bool) : Decidable (Admissible n e) :=
  inferInstanceAs (Decidable (_ ∧ _))

theorem getD_flipAt (n : Nat) (ps : List Nat) (p : Nat) :
    (flipAt n ps).getD p false = (decide (p < n) && ps.contains p) := by
  rw [flipAt, List.getD_eq_getElem?_getD, List.getElem?_map]
  by_cases h : p < n
  · rw [List.getElem?_range h, decide_eq_true h]; rfl
  · rw [List.getElem?_eq_none (by rw [List.length_range]; omega), decide_eq_false h]; rfl

theorem testBit_byteAt_ge (d : List UInt8) (i j : Nat) (hj : 8 ≤ j) :
    (byteAt d i).testBit j = false :=
  Nat.testBit_lt_two_pow
    (Nat.lt_of_lt_of_le (byteAt_lt d i) (Nat.pow_le_pow_right (by decide) hj))

theorem getD_bitsOfBytes (d : List UInt8) (i k : Nat) (hk : k < 8) :
    (bitsOfBytes d).getD (8 * i + k) false = (byteAt d i).testBit (7 - k) := by
  induction d generalizing i with
  | nil => exact (Nat.zero_testBit _).symm
  | cons b d ih =>
    rw [bitsOfBytes_cons, List.getD_eq_getElem?_getD]
    cases i with
    | zero =>
      rw [List.getElem?_append_left (by rw [length_bitsOfByte]; omega), ← List.getD_eq_getElem?_getD,
        Nat.mul_zero, Nat.zero_add]
      exact getD_bitsOfByte b k hk
    | succ i =>
      rw [List.getElem?_append_right (by rw [length_bitsOfByte]; omega), ← List.getD_eq_getElem?_getD,
        length_bitsOfByte, show 8 * (i + 1) + k - 8 = 8 * i + k by omega, ih i]
      rfl

theorem bitsOfBytes_applyErr (f : List UInt8) (e : List Bool) (h : e.length = 8 * f.length) :
    bitsOfBytes (applyErr f e) = xorBits (bitsOfBytes f) e :=
  bitsOfBytes_bytesOfBits _
    (by rw [length_xorBits _ _ (by rw [length_bitsOfBytes, h]), length_bitsOfBytes]; omega)

theorem length_applyErr (f : List UInt8) (e : List Bool) (h : e.length = 8 * f.length) :
    (applyErr f e).length = f.length := by
  have := congrArg List.length (bitsOfBytes_applyErr f e h)
  rw [length_bitsOfBytes, length_xorBits _ _ (by rw [length_bitsOfBytes, h]),
    length_bitsOfBytes] at this
  omega

theorem testBit_byteAt_applyErr (f : List UInt8) (e : List Bool) (h : e.length = 8 * f.length)
    (i j : Nat) (hj : j < 8) :
    (byteAt (applyErr f e) i).testBit j
      = ((byteAt f i).testBit j != e.getD (8 * i + (7 - j)) false) := by
  have h1 := getD_bitsOfBytes (applyErr f e) i (7 - j) (by omega)
  have h2 := getD_bitsOfBytes f i (7 - j) (by omega)
  have e7 : 7 - (7 - j) = j := by omega
  rw [e7] at h1 h2
  rw [← h1, bitsOfBytes_applyErr f e h, getD_xorBits _ _ (by rw [length_bitsOfBytes, h]), h2]

theorem byteAt_applyErr_of_clean (f : List UInt8) (e : List Bool) (h : e.length = 8 * f.length)
    (i : Nat) (hc : ∀ k, k < 8 → e.getD (8 * i + k) false = false) :
    byteAt (applyErr f e) i = byteAt f i := by
  apply Nat.eq_of_testBit_eq
  intro j
  by_cases hj : j < 8
  · rw [testBit_byteAt_applyErr f e h i j hj, hc _ (by omega), Bool.bne_false]
  · rw [testBit_byteAt_ge _ _ _ (by omega), testBit_byteAt_ge _ _ _ (by omega)]

theorem byteAt0_applyErr (f : List UInt8) (e : List Bool) (h : Admissible f.length e) :
    byteAt (applyErr f e) 0 = byteAt f 0 :=
  byteAt_applyErr_of_clean f e h.1 0 (fun k hk => h.2 _ (by omega) (by omega))

theorem lenField_applyErr (f : List UInt8) (e : List Bool) (h : Admissible f.length e) :
    lenField (applyErr f e) = lenField f := by
  have hb2 : byteAt (applyErr f e) 2 = byteAt f 2 :=
    byteAt_applyErr_of_clean f e h.1 2 (fun k hk => h.2 _ (by omega) (by omega))
  have hb1 : byteAt (applyErr f e) 1 &&& 3 = byteAt f 1 &&& 3 := by
    apply Nat.eq_of_testBit_eq
    intro j
    rw [show (3 : Nat) = 2 ^ 2 - 1 from rfl, Nat.testBit_and, Nat.testBit_and,
      Nat.testBit_two_pow_sub_one]
    by_cases hj : j < 2
    · rw [testBit_byteAt_applyErr f e h.1 1 j (by omega), h.2 _ (by omega) (by omega), Bool.bne_false]
    · rw [decide_eq_false hj, Bool.and_false, Bool.and_false]
  unfold lenField
  rw [hb1, hb2]

theorem crcStep_small (s : Nat) (b : Bool) (h : 2 * s + (if b then 1 else 0) < 2 ^ 24) :
    crcStep s b = 2 * s + (if b then 1 else 0) := by
  simp only [crcStep, Nat.testBit_lt_two_pow h, Bool.false_eq_true, if_false]

theorem crcRem_small (s : Nat) (bits : List Bool) (k : Nat) (hs : s < 2 ^ k)
    (hk : k + bits.length ≤ 24) : crcRem s bits = shiftIn s bits := by
  induction bits generalizing s k with
  | nil => rfl
  | cons b bs ih =>
    rw [List.length_cons] at hk
    have ht := shl_bit_lt hs b
    rw [crcRem_cons, shiftIn_cons,
      crcStep_small s b (Nat.lt_of_lt_of_le ht (Nat.pow_le_pow_right (by decide) (by omega)))]
    exact ih _ (k + 1) ht (by omega)

theorem natOfBits_three (c : List UInt8) (h : c.length = 3) :
    natOfBits (bitsOfBytes c) = be24 c 0 :=
  match c, h with
  | [c0, c1, c2], _ => by
    rw [be24_three]
    simp only [natOfBits, bitsOfBytes_cons, shiftIn_append, shiftIn_bitsOfByte]
    show 256 * (256 * (256 * 0 + c0.toNat) + c1.toNat) + c2.toNat = _
    omega

theorem crcRem_body_crc (b c : List UInt8) (hc : c.length = 3) :
    crcRem 0 (bitsOfBytes (b ++ c)) = crc24q b ^^^ be24 c 0 := by
  rw [bitsOfBytes_append, crcRem_append]
  have hl : (bitsOfBytes c).length = 24 := by rw [length_bitsOfBytes, hc]
  have hx := xorBits_false_left (bitsOfBytes c)
  rw [hl] at hx
  have := crcRem_linear (crcRem 0 (bitsOfBytes b)) 0 (List.replicate 24 false) (bitsOfBytes c)
    (by rw [hl, List.length_replicate])
  rw [Nat.xor_zero, hx] at this
  rw [this, ← crcRemBytes_eq_bits, crcRem_small 0 _ 0 (by decide) (by omega),
    ← natOfBits_three c hc]
  rfl

theorem frameNew_exact (d : List UInt8) (hlen : d.length = lenField d + 6)
    (h0 : byteAt d 0 = 0xd3) :
    ((∃ x, frameNew d = .ok x) ↔ crcRem 0 (bitsOfBytes d) = 0) ∧
    (frameNew d = .error .notValid ↔ crcRem 0 (bitsOfBytes d) ≠ 0) := by
  have hsplit : d = d.take (lenField d + 3) ++ d.drop (lenField d + 3) :=
    (List.take_append_drop _ _).symm
  have hcl : (d.drop (lenField d + 3)).length = 3 := by rw [List.length_drop]; omega
  have htl : (d.take (lenField d + 3)).length = lenField d + 3 := by rw [List.length_take]; omega
  have hbe : be24 d (lenField d + 3) = be24 (d.drop (lenField d + 3)) 0 := by
    have := be24_append_right (d.take (lenField d + 3)) (d.drop (lenField d + 3)) 0
    rwa [← hsplit, htl] at this
  -- the checksum test of `frameNew` is "the remainder of the whole frame is zero"
  have hkey : be24 d (lenField d + 3) = crc24q (d.take (lenField d + 3)) ↔
      crcRem 0 (bitsOfBytes d) = 0 := by
    have := crcRem_body_crc (d.take (lenField d + 3)) (d.drop (lenField d + 3)) hcl
    rw [← hsplit] at this
    rw [this, xor_eq_zero_iff, hbe]
    exact eq_comm
  cases frameNew_cases d with
  | short h6 _ => omega
  | noPreamble _ hp _ => exact absurd h0 hp
  | truncated _ _ hl _ => omega
  | badCrc _ _ _ hc e =>
    have hz := mt hkey.mpr hc
    rw [e]
    exact ⟨iff_of_false (fun ⟨_, h⟩ => by cases h) hz, iff_of_true rfl hz⟩
  | ok _ _ _ hc e =>
    have hz := hkey.mp hc
    rw [e]
    exact ⟨iff_of_true ⟨_, rfl⟩ hz, iff_of_false (fun h => by cases h) (not_not_intro hz)⟩

theorem valid_facts {f : List UInt8} {x : Frame} (h : Sys.ExactFrame f x) :
    f.length = lenField f + 6 ∧ byteAt f 0 = 0xd3 ∧ f.length ≤ 1029 ∧
      crcRem 0 (bitsOfBytes f) = 0 := by
  obtain ⟨hv, hl⟩ := h
  have h1 := frameNew_ok_frameLen f x hv
  have h2 := (frameNew_ok_iff f x).mp hv
  have hlen : f.length = lenField f + 6 := by omega
  have := lenField_lt f
  exact ⟨hlen, h2.2.1, by omega, (frameNew_exact f hlen h2.2.1).1.mp ⟨x, hv⟩⟩

theorem crcRem_applyErr {f : List UInt8} {x : Frame} (h : Sys.ExactFrame f x) (e : List Bool)
    (he : e.length = 8 * f.length) : crcRem 0 (bitsOfBytes (applyErr f e)) = crcRem 0 e := by
  have hz := (valid_facts h).2.2.2
  have := crcRem_linear 0 0 (bitsOfBytes f) e (by rw [length_bitsOfBytes, he])
  rw [Nat.xor_self, hz, Nat.zero_xor] at this
  rw [bitsOfBytes_applyErr f e he, this]

theorem applyErr_outcome {f : List UInt8} {x : Frame} (h : Sys.ExactFrame f x) (e : List Bool)
    (ha : Admissible f.length e) :
    ((∃ y, frameNew (applyErr f e) = .ok y) ↔ crcRem 0 e = 0) ∧
    (frameNew (applyErr f e) = .error .notValid ↔ crcRem 0 e ≠ 0) := by
  obtain ⟨hlen, h0, _, _⟩ := valid_facts h
  rw [← crcRem_applyErr h e ha.1]
  exact frameNew_exact _ (by rw [length_applyErr f e ha.1, lenField_applyErr f e ha]; exact hlen)
    (by rw [byteAt0_applyErr f e ha]; exact h0)

theorem crcRem_zero_replicate (k : Nat) : crcRem 0 (List.replicate k false) = 0 := by
  induction k with
  | zero => rfl
  | succ k ih => rw [List.replicate_succ, crcRem_cons]; exact ih

/-- A zero input bit never kills a non-zero state (`2s` is even, the generator odd). -/
theorem crcStep_false_ne_zero (s : Nat) (hs : s ≠ 0) : crcStep s false ≠ 0 := by
  rw [crcStep_false]
  split
  · intro h
    have h1 : ((2 * s) ^^^ crcG).testBit 0 = true := by
      rw [Nat.testBit_xor, Nat.testBit_zero, Nat.mul_mod_right]; rfl
    rw [h, Nat.zero_testBit] at h1
    cases h1
  · omega

theorem crcRem_replicate_ne_zero (s m : Nat) (hs : s ≠ 0) :
    crcRem s (List.replicate m false) ≠ 0 := by
  induction m generalizing s with
  | zero => exact hs
  | succ m ih => rw [List.replicate_succ, crcRem_cons]; exact ih _ (crcStep_false_ne_zero s hs)

/-- A non-zero pattern whose set bits all lie in a window `[k, k+24)`: leading zeros leave the zero
state alone, the window loads the state without reduction, trailing zeros cannot clear it. -/
theorem crcRem_window_ne_zero (e : List Bool) (k : Nat) (hne : true ∈ e)
    (hw : ∀ p, e.getD p false = true → k ≤ p ∧ p < k + 24) : crcRem 0 e ≠ 0 := by
  induction e generalizing k with
  | nil => cases hne
  | cons b t ih =>
    cases b with
    | false =>
      exact ih (k - 1) ((List.mem_cons.mp hne).resolve_left (by decide)) fun p hp => by
        have := hw (p + 1) hp
        omega
    | true =>
      have hk := hw 0 rfl
      have hC : (true :: t).drop 24 = List.replicate ((true :: t).drop 24).length false :=
        eq_replicate_false _ fun p hp => by
          cases hv : ((true :: t).drop 24).getD p false with
          | false => rfl
          | true =>
            have := hw (24 + p) (by
              rwa [List.getD_eq_getElem?_getD, ← List.getElem?_drop, ← List.getD_eq_getElem?_getD])
            omega
      rw [← List.take_append_drop 24 (true :: t), hC, crcRem_append,
        crcRem_small 0 _ 0 (by decide) (by rw [List.length_take]; omega)]
      exact crcRem_replicate_ne_zero _ _ (Nat.ne_of_gt (shiftIn_pos 0 _ List.mem_cons_self))

/-! Parity (evaluation at x = 1): the generator has an even number of terms. -/

/-- parity of the number of one bits -/
def par (n : Nat) : Bool := if n = 0 then false else par (n / 2) != n.testBit 0
termination_by n
decreasing_by omega

theorem par_eq (n : Nat) : par n = (par (n / 2) != n.testBit 0) := by
  rw [par]
  split
  · next h => subst h; rw [par]; rfl
  · rfl

theorem par_zero : par 0 = false := by rw [par]; rfl

theorem par_crcG : par crcG = false := by decide +kernel

theorem par_xor (a b : Nat) : par (a ^^^ b) = (par a != par b) := by
  induction a using Nat.strongRecOn generalizing b with
  | _ a ih =>
    by_cases ha : a = 0
    · rw [ha, Nat.zero_xor, par_zero, Bool.false_bne]
    · rw [par_eq (a ^^^ b), par_eq a, par_eq b, Nat.xor_div_two, ih (a / 2) (by omega),
        Nat.testBit_xor]
      cases a.testBit 0 <;> cases b.testBit 0 <;> cases par (a / 2) <;> cases par (b / 2) <;> rfl

theorem par_bit (s : Nat) (b : Bool) : par (2 * s + (if b then 1 else 0)) = (par s != b) := by
  rw [par_eq, shl_bit_div_two, shl_bit_testBit_zero]

theorem par_crcStep (s : Nat) (b : Bool) : par (crcStep s b) = (par s != b) := by
  unfold crcStep
  have hp := par_bit s b
  generalize (2 * s + if b = true then 1 else 0) = t at hp ⊢
  simp only
  split
  · rw [par_xor, hp, par_crcG, Bool.bne_false]
  · exact hp

theorem succ_mod_two_beq (n : Nat) : ((n + 1) % 2 == 1) = !(n % 2 == 1) := by
  rcases Nat.mod_two_eq_zero_or_one n with h | h
  · rw [Nat.add_mod, h]; rfl
  · rw [Nat.add_mod, h]; rfl

theorem par_crcRem (s : Nat) (bits : List Bool) :
    par (crcRem s bits) = (par s != (bits.count true % 2 == 1)) := by
  induction bits generalizing s with
  | nil => exact (Bool.bne_false _).symm
  | cons b bs ih =>
    rw [crcRem_cons, ih, par_crcStep]
    cases b with
    | false => rw [List.count_cons_of_ne (by decide), Bool.bne_false]
    | true =>
      rw [List.count_cons_self, succ_mod_two_beq, Bool.bne_true]
      cases par s <;> cases (bs.count true % 2 == 1) <;> rfl

theorem crcRem_odd_ne_zero (e : List Bool) (h : e.count true % 2 = 1) : crcRem 0 e ≠ 0 := by
  intro hz
  have := par_crcRem 0 e
  rw [hz, par_zero, h] at this
  exact absurd this (by decide)

/-! Two bits: `x^k mod g ≠ 1` for `1 ≤ k ≤ 8400`, one kernel computation. A frame has at most
1029 bytes = 8232 bits, so 8400 covers every distance between two bits of a frame. -/

/-- The zero-input step on a 24-bit state, in operations the kernel computes on numerals directly:
through `crcStep` (`testBit`, `Decidable` instances) the 8400-step sweep below is much slower to check.
`8388608 = 2^23`: bit 23 of `s` is bit 24 of `2s`. -/
def step0 (s : Nat) : Nat := bif Nat.ble 8388608 s then Nat.xor (2 * s) crcG else 2 * s

theorem crcStep_false_eq (s : Nat) (h : s < 2 ^ 24) : crcStep s false = step0 s := by
  rw [crcStep_false, step0]
  have ht : (2 * s).testBit 24 = Nat.ble 8388608 s := by
    rw [Nat.testBit_eq_decide_div_mod_eq, Bool.eq_iff_iff]
    simp only [decide_eq_true_eq, Nat.ble_eq]
    omega
  rw [ht]
  cases Nat.ble 8388608 s <;> rfl

/-- Starting from `s`, none of the next `n` zero-input states equals 1. -/
def noReturn : Nat → Nat → Bool
  | 0, _ => true
  | n + 1, s => bif Nat.beq (step0 s) 1 then false else noReturn n (step0 s)

theorem noReturn_8400 : noReturn 8400 1 = true := by decide +kernel

theorem noReturn_spec (n s : Nat) (hs : s < 2 ^ 24) (h : noReturn n s = true) (k : Nat)
    (h1 : 1 ≤ k) (hk : k ≤ n) : crcRem s (List.replicate k false) ≠ 1 := by
  induction n generalizing s k with
  | zero => omega
  | succ n ih =>
    rw [noReturn, ← crcStep_false_eq s hs] at h
    obtain ⟨k, rfl⟩ : ∃ k', k = k' + 1 := ⟨k - 1, by omega⟩
    rw [List.replicate_succ, crcRem_cons]
    cases hb : Nat.beq (crcStep s false) 1 with
    | true => rw [hb] at h; cases h
    | false =>
      rw [hb] at h
      cases k with
      | zero => exact Nat.ne_of_beq_eq_false hb
      | succ k => exact ih _ (crcStep_lt s false hs) h (k + 1) (by omega) (by omega)

theorem xk_ne_one (k : Nat) (h1 : 1 ≤ k) (hk : k ≤ 8400) :
    crcRem 1 (List.replicate k false) ≠ 1 :=
  noReturn_spec 8400 1 (by decide) noReturn_8400 k h1 hk

theorem crcStep_true (s : Nat) : crcStep s true = crcStep s false ^^^ 1 := by
  have := crcStep_linear s 0 false true
  rw [Nat.xor_zero] at this
  exact this

theorem crcRem_two_ne_zero (k d m : Nat) (hd : d + 1 ≤ 8400) :
    crcRem 0 (List.replicate k false ++ true :: (List.replicate d false ++
      true :: List.replicate m false)) ≠ 0 := by
  rw [crcRem_append, crcRem_zero_replicate, crcRem_cons, crcRem_append, crcRem_cons]
  have h1 : crcStep 0 true = 1 := by decide
  rw [h1, crcStep_true, ← crcRem_replicate_succ']
  apply crcRem_replicate_ne_zero
  intro h
  exact xk_ne_one (d + 1) (by omega) hd ((xor_eq_zero_iff _ _).mp h)

theorem crcRem_count_two_ne_zero (e : List Bool) (hlen : e.length ≤ 8400)
    (h : e.count true = 2) : crcRem 0 e ≠ 0 := by
  obtain ⟨k, r1, h1, c1⟩ := count_true_succ e 1 h
  obtain ⟨d, r2, h2, c2⟩ := count_true_succ r1 0 c1
  have h3 := count_true_zero r2 c2
  rw [h1, h2, h3]
  apply crcRem_two_ne_zero
  have : e.length = k + (d + (r2.length + 1) + 1) := by
    rw [h1, h2]
    simp only [List.length_append, List.length_cons, List.length_replicate]
  omega

/-- A multiple of the generator of at most 8400 bits is zero or has at least four terms. -/
theorem codeword_weight_ge4 (e : List Bool) (hlen : e.length ≤ 8400) (hz : crcRem 0 e = 0) :
    e.count true = 0 ∨ 4 ≤ e.count true := by
  have h2 := mt (crcRem_count_two_ne_zero e hlen) (not_not_intro hz)
  have h1 := mt (crcRem_odd_ne_zero e) (not_not_intro hz)
  omega

end Rtcm
