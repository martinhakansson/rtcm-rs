import Rtcm.Proofs.CurLaws
import Rtcm.Proofs.BiasLayout
import Rtcm.Proofs.SigLaws
import Rtcm.Proofs.DecEqns
/-!
The encoders are layouts (Proofs/BiasLayout); `putAll_law` says what a reader finds where a layout
was written (`Reads`), and the readers are followed along `Reads` of `items p v`.
-/
namespace Rtcm.BiasLaws
open Rtcm.Bits Rtcm.Bias Rtcm.Schema Rtcm.Layout Rtcm.CurLaws

theorem quantBias_lt (res : SoftFloat.F) (bits : Nat) : quantBias res bits < 2 ^ 16 :=
  ofInt_lt 16 _

/-- what a 14-bit two's-complement field returns for a 16-bit pattern: the low 14 bits,
sign-extended -/
def wire14 (q : Nat) : Nat := readValue ⟨.i, 16⟩ 14 (wireValue ⟨.i, 16⟩ 14 q)

/-- the entry as it comes back from a 1059/1065 frame -/
def norm14 (e : Entry) : Entry :=
  { e with bias := dequantBias res001 (toInt 16 (wire14 (quantBias res001 e.bias))) }

/-- the entry on the 0.01 m grid when the integer fits the 14-bit field -/
def normalise (e : Entry) : Entry :=
  { e with bias := dequantBias res001 (toInt 16 (quantBias res001 e.bias)) }

/-- |bias| up to 81.91 m -/
def Fits14 (e : Entry) : Prop :=
  -8192 ≤ toInt 16 (quantBias res001 e.bias) ∧ toInt 16 (quantBias res001 e.bias) < 8192

theorem wire14_of_fits {q : Nat} (hq : q < 2 ^ 16) (h : -8192 ≤ toInt 16 q ∧ toInt 16 q < 8192) :
    wire14 q = q :=
  readValue_wireValue ⟨.i, 16⟩ (by decide) (by decide) hq h

theorem norm14_of_fits (e : Entry) (h : Fits14 e) : norm14 e = normalise e := by
  unfold norm14 normalise
  rw [wire14_of_fits (quantBias_lt _ _) h]

/-- `lt32`: a signal identifier goes into a 5-bit field -/
structure TblOk (t : SigTable) : Prop where
  nodup : (t.map (·.1)).Nodup
  lt32 : ∀ r ∈ t, r.1 < 32

theorem toId_facts {t : SigTable} (ht : TblOk t) {b a sid : Nat} (h : Sig.toId t b a = some sid) :
    sid < 2 ^ 5 ∧ Sig.toSig t sid = some (b, a) :=
  ⟨ht.lt32 _ (C18.toId_mem t b a sid h), Sig.toSig_of_toId t ht.nodup b a sid h⟩

theorem entryItems_lt {p : Params} (ht : TblOk p.tbl) {es : List Entry} {i : Item}
    (h : i ∈ entryItems p es) : i.Lt := by
  obtain ⟨e, _, sid, hsid, rfl | rfl⟩ := mem_entryItems h
  · exact Nat.lt_of_lt_of_le (toId_facts ht hsid).1 (by decide)
  · exact quantBias_lt _ _

theorem fail_not_mem_entryItems {p : Params} {es : List Entry} {x : RtcmError} :
    Item.fail x ∉ entryItems p es := fun h => by
  obtain ⟨_, _, _, _, h | h⟩ := mem_entryItems h <;> cases h

theorem bits_entryItems (p : Params) : ∀ es : List Entry,
    bits (entryItems p es) = 19 * (es.filter (C16.recognised p)).length
  | [] => rfl
  | e :: es => by
    cases hsid : Sig.toId p.tbl e.band e.attr with
    | none =>
      rw [entryItems_none es hsid, filter_recg_none es hsid, bits_entryItems p es]
    | some sid =>
      rw [entryItems_some es hsid, filter_recg_some es hsid]
      simp only [bits, bits_entryItems p es, List.length_cons]
      omega

-- an unrecognised entry wrote nothing and is skipped on both sides; a recognised one is read back as
-- its `norm14`; the capacity test passes since the whole list fits
theorem decBiases_reads (cfg : Cfg) (p : Params) (ht : TblOk p.tbl) (D : List Nat) (sat : Nat) :
    ∀ (es acc : List Entry) (o : Nat), Reads cfg D o (entryItems p es) → (∀ e ∈ es, e.sat = sat) →
      acc.length + (es.filter (C16.recognised p)).length ≤ p.cap →
      decBiases cfg p sat (es.filter (C16.recognised p)).length acc ⟨D, o⟩
        = .ok (acc ++ (es.filter (C16.recognised p)).map norm14, ⟨D, o + bits (entryItems p es)⟩)
  | [], acc, o, _, _, _ => by rw [List.filter_nil, List.map_nil, List.append_nil]; rfl
  | e :: es, acc, o, hr, hsat, hcap => by
    have ih := decBiases_reads cfg p ht D sat es
    have hs : ∀ x ∈ es, x.sat = sat := fun x hx => hsat x (List.mem_cons_of_mem _ hx)
    cases hsid : Sig.toId p.tbl e.band e.attr with
    | none =>
      rw [entryItems_none es hsid] at hr ⊢
      rw [filter_recg_none es hsid] at hcap ⊢
      exact ih acc o hr hs hcap
    | some sid =>
      obtain ⟨hlt, hsig⟩ := toId_facts ht hsid
      rw [entryItems_some es hsid] at hr ⊢
      rw [filter_recg_some es hsid] at hcap ⊢
      obtain ⟨r1, r2, r3⟩ := hr
      simp only [List.length_cons] at hcap
      rw [List.length_cons, decBiases_succ, parseU_eq, r1, readValue_wireValue_u 8 5 sid hlt, Res.bind_ok]
      simp only [hsig]
      rw [parseI16_eq, r2, Res.bind_ok, Res.bind_ok, if_neg (by omega),
        ih _ _ r3 hs (by simp only [List.length_append, List.length_singleton]; omega)]
      simp only [bits, norm14, wire14, ← hsat e (List.mem_cons_self ..), List.map_cons,
        List.append_assoc, List.cons_append, List.nil_append, Nat.add_assoc]

/-- `maxSat`: a satellite identifier goes into a field of `satBits` bits.  `satNum`: the number of
satellites goes into a 6-bit field; either the encoder refuses more than 63 (`checkSatNum`, 1059) or
there are no more than 63 satellite identifiers (1065). -/
structure ParamsOk (p : Params) : Prop where
  satBits1 : 1 ≤ p.satBits
  satBits8 : p.satBits ≤ 8
  maxSat : p.maxSat < 2 ^ p.satBits
  satNum : p.checkSatNum = true ∨ p.maxSat < 63
  tbl : TblOk p.tbl

theorem satItems_lt {p : Params} (hp : ParamsOk p) {v : List Entry} {ss : List Nat}
    (hss : ∀ s ∈ ss, s < 2 ^ p.satBits) {i : Item} (h : i ∈ satItems p v ss) : i.Lt := by
  obtain ⟨s, hs, rfl | ⟨_, rfl⟩ | ⟨hn, rfl | hi⟩⟩ := mem_satItems.mp h
  · exact Nat.lt_of_lt_of_le (hss s hs) (Nat.pow_le_pow_right (by decide) hp.satBits8)
  · trivial
  · exact Nat.lt_of_le_of_lt hn (by decide)
  · exact entryItems_lt hp.tbl hi

theorem fail_mem_satItems {p : Params} {v : List Entry} {ss : List Nat} {x : RtcmError} :
    Item.fail x ∈ satItems p v ss ↔ x = .outOfRange ∧
      ∃ s ∈ ss, 31 < ((v.filter fun e => e.sat == s).filter (C16.recognised p)).length := by
  rw [mem_satItems]
  constructor
  · rintro ⟨s, hs, h | ⟨hn, h⟩ | ⟨_, h | h⟩⟩
    · cases h
    · cases h; exact ⟨rfl, s, hs, hn⟩
    · cases h
    · exact absurd h fail_not_mem_entryItems
  · rintro ⟨rfl, s, hs, hn⟩
    exact ⟨s, hs, Or.inr (Or.inl ⟨hn, rfl⟩)⟩

theorem bits_satItems_le (p : Params) (v : List Entry) : ∀ ss : List Nat,
    bits (satItems p v ss) ≤
      (p.satBits + 5) * ss.length + 19 * (ss.flatMap fun s => v.filter fun e => e.sat == s).length
  | [] => Nat.zero_le _
  | s :: ss => by
    have ih := bits_satItems_le p v ss
    have hle := List.length_filter_le (C16.recognised p) (v.filter fun e => e.sat == s)
    have hmul : (p.satBits + 5) * (ss.length + 1) = (p.satBits + 5) * ss.length + p.satBits + 5 := by
      rw [Nat.mul_succ]; omega
    rw [satItems_cons]
    simp only [List.flatMap_cons, List.length_append, List.length_cons, hmul, bits, bits_append]
    split
    · simp only [bits]; omega
    · simp only [bits, bits_entryItems]; omega

-- a count above 31 puts a refusal in the layout, and `Reads` of a refusal is false; `Reads.append`
-- splits the layout after the satellite's entries
theorem decSats_reads (cfg : Cfg) (p : Params) (hp : ParamsOk p) (v : List Entry) (D : List Nat) :
    ∀ (ss : List Nat) (acc : List Entry) (o : Nat), (∀ s ∈ ss, s < 2 ^ p.satBits) →
      Reads cfg D o (satItems p v ss) →
      acc.length + (ss.flatMap fun s =>
        (v.filter fun e => e.sat == s).filter (C16.recognised p)).length ≤ p.cap →
      decSats cfg p ss.length acc ⟨D, o⟩
        = .ok (acc ++ ss.flatMap (fun s =>
                 ((v.filter fun e => e.sat == s).filter (C16.recognised p)).map norm14),
               ⟨D, o + bits (satItems p v ss)⟩)
  | [], acc, o, _, _, _ => by rw [List.flatMap_nil, List.append_nil]; rfl
  | s :: ss, acc, o, hss, hr, hcap => by
    rw [satItems_cons] at hr ⊢
    simp only [List.cons_append] at hr ⊢
    obtain ⟨r1, hr⟩ := hr
    by_cases hn : ((v.filter fun e => e.sat == s).filter (C16.recognised p)).length > 31
    · rw [if_pos hn] at hr; exact hr.elim
    · rw [if_neg hn] at hr ⊢
      obtain ⟨r2, hr⟩ := hr
      obtain ⟨r3, r4⟩ := hr.append
      simp only [List.flatMap_cons, List.length_append] at hcap
      rw [List.length_cons, decSats_succ, parseU_eq, r1,
        readValue_wireValue_u 8 _ s (hss s (List.mem_cons_self ..))]
      simp only [Res.bind_ok]
      rw [parseU_eq, r2, readValue_wireValue_u 8 5 _ (by show _ < 32; omega)]
      simp only [Res.bind_ok]
      rw [decBiases_reads cfg p hp.tbl D s _ acc _ r3
        (fun e he => by simpa using (List.mem_filter.mp he).2) (by omega)]
      simp only [Res.bind_ok]
      rw [decSats_reads cfg p hp v D ss _ _ (fun x hx => hss x (List.mem_cons_of_mem _ hx)) r4
        (by simp only [List.length_append, List.length_map]; omega)]
      simp only [List.flatMap_cons, List.append_assoc, bits, bits_append, Nat.add_assoc]

theorem filter_append_perm_or {α} (p q : α → Bool) (hd : ∀ e, ¬ (p e = true ∧ q e = true))
    (v : List α) : (v.filter p ++ v.filter q).Perm (v.filter fun e => p e || q e) := by
  induction v with
  | nil => simp
  | cons e v ih =>
    cases hp : p e with
    | false =>
      cases hq : q e with
      | false =>
        simp only [List.filter_cons, hp, hq, Bool.or_self, Bool.false_eq_true, if_false]
        exact ih
      | true =>
        simp only [List.filter_cons, hp, hq, Bool.false_or, if_true, Bool.false_eq_true, if_false]
        exact List.perm_middle.trans (List.Perm.cons e ih)
    | true =>
      cases hq : q e with
      | false =>
        simp only [List.filter_cons, hp, hq, Bool.true_or, if_true, Bool.false_eq_true, if_false,
          List.cons_append]
        exact List.Perm.cons e ih
      | true => exact absurd ⟨hp, hq⟩ (hd e)

theorem flatMap_filter_perm (v : List Entry) :
    ∀ l : List Nat, l.Nodup →
      (l.flatMap fun s => v.filter fun e => e.sat == s).Perm (v.filter fun e => l.contains e.sat) := by
  intro l
  induction l with
  | nil => intro _; simp
  | cons s l ih =>
    intro hnd
    rw [List.nodup_cons] at hnd
    rw [List.flatMap_cons]
    refine ((List.Perm.append_left _ (ih hnd.2)).trans
      (filter_append_perm_or _ _ ?_ v)).trans (List.Perm.of_eq ?_)
    · rintro e ⟨h1, h2⟩
      simp only [beq_iff_eq] at h1
      rw [List.contains_iff_mem] at h2
      exact hnd.1 (h1 ▸ h2)
    · apply List.filter_congr
      intro e _
      rw [List.contains_cons, Bool.or_comm]

theorem checkSats_iff (p : Params) (v : List Entry) :
    checkSats p v = true ↔ ∀ e ∈ v, e.sat ≤ p.maxSat := by
  induction v with
  | nil => exact ⟨fun _ _ h => (nomatch h), fun _ => rfl⟩
  | cons e v ih => rw [checkSats, Bool.and_eq_true, decide_eq_true_eq, ih, List.forall_mem_cons]

theorem satsOf_nodup (p : Params) (v : List Entry) : (satsOf p v).Nodup :=
  List.Nodup.sublist List.filter_sublist List.nodup_range

theorem mem_satsOf (p : Params) (v : List Entry) (s : Nat) :
    s ∈ satsOf p v ↔ s ≤ p.maxSat ∧ ∃ e ∈ v, e.sat = s := by
  rw [satsOf, List.mem_filter, List.mem_range, Nat.lt_succ_iff, List.any_eq_true]
  simp only [beq_iff_eq]

theorem satsOf_length_le (p : Params) (v : List Entry) : (satsOf p v).length ≤ p.maxSat + 1 := by
  unfold satsOf
  exact Nat.le_trans (List.length_filter_le _ _) (by simp)

theorem group_perm (p : Params) (v : List Entry) (hc : checkSats p v = true) :
    ((satsOf p v).flatMap fun s => v.filter fun e => e.sat == s).Perm v := by
  refine (flatMap_filter_perm v _ (satsOf_nodup p v)).trans (List.Perm.of_eq ?_)
  rw [List.filter_eq_self]
  intro e he
  rw [List.contains_iff_mem, mem_satsOf]
  exact ⟨(checkSats_iff p v).mp hc e he, e, he, rfl⟩

theorem satsOf_length_lt (p : Params) (hp : ParamsOk p) (v : List Entry)
    (h : ¬ (!checkSats p v || (p.checkSatNum && decide ((satsOf p v).length > 63))) = true) :
    (satsOf p v).length < 2 ^ 6 := by
  have hl := satsOf_length_le p v
  rcases hp.satNum with hc | hm
  · simp only [hc, Bool.true_and, Bool.or_eq_true, decide_eq_true_eq, not_or] at h
    show _ < 64
    omega
  · show _ < 64
    omega

theorem sats_lt (p : Params) (hp : ParamsOk p) (v : List Entry) :
    ∀ s ∈ satsOf p v, s < 2 ^ p.satBits :=
  fun s hs => Nat.lt_of_le_of_lt ((mem_satsOf p v s).mp hs).1 hp.maxSat

theorem fail_mem_items (p : Params) (v : List Entry) (x : RtcmError) :
    Item.fail x ∈ items p v ↔ x = .outOfRange ∧ (checkSats p v = false ∨
      (p.checkSatNum = true ∧ 63 < (satsOf p v).length) ∨
      ∃ s ∈ satsOf p v, 31 < ((v.filter fun e => e.sat == s).filter (C16.recognised p)).length) := by
  unfold items
  split
  · next h =>
    simp only [Bool.or_eq_true, Bool.not_eq_true', Bool.and_eq_true, decide_eq_true_eq] at h
    simp only [List.mem_singleton, Item.fail.injEq]
    exact ⟨fun he => ⟨he, h.imp_right Or.inl⟩, fun he => he.1⟩
  · next h =>
    simp only [Bool.or_eq_true, Bool.not_eq_true', Bool.and_eq_true, decide_eq_true_eq, not_or] at h
    simp only [List.mem_cons, reduceCtorEq, false_or, fail_mem_satItems]
    exact and_congr_right fun _ => ⟨fun he => Or.inr (Or.inr he),
      fun he => he.resolve_left h.1 |>.resolve_left h.2⟩

theorem items_lt (p : Params) (hp : ParamsOk p) (v : List Entry) : ∀ i ∈ items p v, i.Lt := by
  unfold items
  split
  · intro i hi; rw [List.mem_singleton.mp hi]; trivial
  · next h =>
    intro i hi
    rcases List.mem_cons.mp hi with rfl | hi
    · exact Nat.lt_of_lt_of_le (satsOf_length_lt p hp v h) (by decide)
    · exact satItems_lt hp (sats_lt p hp v) hi

theorem items_ok (p : Params) (hp : ParamsOk p) (v : List Entry) : ∀ i ∈ items p v, i.Ok :=
  fun i hi => ⟨items_wf p hp.satBits1 hp.satBits8 v i hi, items_lt p hp v i hi⟩

theorem bits_items_le (p : Params) (v : List Entry) :
    bits (items p v) ≤ 6 + (p.satBits + 5) * (satsOf p v).length + 19 * v.length := by
  unfold items
  split
  · exact Nat.zero_le _
  · next h =>
    simp only [Bool.or_eq_true, Bool.not_eq_true', not_or, Bool.not_eq_false] at h
    have := bits_satItems_le p v (satsOf p v)
    rw [(group_perm p v h.1).length_eq] at this
    simp only [bits]; omega

theorem flatMap_filter_nil {α β : Type} (P : α → Bool) (h : α → List β) : ∀ l : List α,
    (∀ a ∈ l, P a = false → h a = []) → (l.filter P).flatMap h = l.flatMap h
  | [], _ => rfl
  | a :: l, hl => by
    have ih := flatMap_filter_nil P h l fun x hx => hl x (List.mem_cons_of_mem _ hx)
    cases hP : P a with
    | true => rw [List.filter_cons_of_pos hP, List.flatMap_cons, List.flatMap_cons, ih]
    | false =>
      rw [List.filter_cons_of_neg (by simp [hP]), List.flatMap_cons, ih,
        hl a (List.mem_cons_self ..) hP, List.nil_append]

-- the regrouping of the recognised entries, satellite by satellite as the reader builds it
theorem grouped_recg (p : Params) (v : List Entry) :
    C16.grouped p norm14 (v.filter (C16.recognised p)) = (satsOf p v).flatMap fun s =>
      ((v.filter fun e => e.sat == s).filter (C16.recognised p)).map norm14 := by
  have hs : satsOf p (v.filter (C16.recognised p))
      = (satsOf p v).filter fun s => (v.filter (C16.recognised p)).any fun e => e.sat == s := by
    unfold satsOf
    rw [List.filter_filter]
    refine List.filter_congr fun s _ => ?_
    cases h : (v.filter (C16.recognised p)).any fun e => e.sat == s with
    | false => rfl
    | true =>
      obtain ⟨e, he, hes⟩ := List.any_eq_true.mp h
      exact (Bool.true_and _).trans (List.any_eq_true.mpr ⟨e, (List.mem_filter.mp he).1, hes⟩).symm
  unfold C16.grouped
  rw [hs, flatMap_filter_nil]
  · simp only [List.filter_filter, Bool.and_comm]
  · intro s _ h
    rw [List.any_eq_false] at h
    rw [List.map_eq_nil_iff, List.filter_eq_nil_iff]
    exact fun e he => h e he

theorem recg_length_le (p : Params) (v : List Entry) :
    ((satsOf p v).flatMap fun s => (v.filter fun e => e.sat == s).filter (C16.recognised p)).length
      ≤ v.length := by
  rw [← List.filter_flatMap]
  refine Nat.le_trans (List.length_filter_le _ _) ?_
  rw [(flatMap_filter_perm v _ (satsOf_nodup p v)).length_eq]
  exact List.length_filter_le _ _

theorem decode_reads (cfg : Cfg) (p : Params) (hp : ParamsOk p) (v : List Entry)
    (hcap : v.length ≤ p.cap) (D : List Nat) (o : Nat) (hr : Reads cfg D o (items p v)) :
    decode cfg p ⟨D, o⟩
      = .ok (C16.grouped p norm14 (v.filter (C16.recognised p)), ⟨D, o + bits (items p v)⟩) := by
  by_cases h : (!checkSats p v || (p.checkSatNum && decide ((satsOf p v).length > 63))) = true
  · rw [items, if_pos h] at hr; exact hr.elim
  · rw [items, if_neg h] at hr ⊢
    rw [grouped_recg]
    have hlen := recg_length_le p v
    rw [decode_eq, parseU_eq, hr.1, readValue_wireValue_u 8 6 _
      (satsOf_length_lt p hp v h)]
    simp only [Res.bind_ok]
    rw [decSats_reads cfg p hp v D _ [] _ (sats_lt p hp v) hr.2 (by simp only [List.length_nil]; omega)]
    simp only [List.nil_append, bits, Nat.add_assoc]

theorem encode_decode (cfg : Cfg) (p : Params) (hp : ParamsOk p) (v : List Entry)
    (hcap : v.length ≤ p.cap) (c c' : Cur) (hg : Good c) (h : encode cfg p v c = .ok c') :
    Ext c c' ∧ Written c c' fun D =>
      decode cfg p ⟨D, c.off⟩
        = .ok (C16.grouped p norm14 (v.filter (C16.recognised p)), ⟨D, c'.off⟩) := by
  rw [encode_putAll] at h
  have hne : items p v ≠ [] := by unfold items; split <;> exact List.cons_ne_nil _ _
  obtain ⟨hext, hoff, hr⟩ := putAll_law hg (items_ok p hp v) hne h
  refine ⟨hext, fun D hD ha => ?_⟩
  rw [hoff]
  exact decode_reads cfg p hp v hcap D c.off (hr D hD ha)

end Rtcm.BiasLaws
