import Rtcm.Proofs.SigLaws
import Rtcm.Proofs.BitValue
import Rtcm.Proofs.MsmMaskAlgebra
import Mathlib.Data.List.Induction
/-!
`Msm.masks` is three loops with tests in between (`masks_eq`). Each loop either stops at a first
offending row with its error or computes an `idMask`; under the encoder's preconditions `Pre` the
result is given in closed form (`masks_pre`) and does not depend on the order of the rows; otherwise
both lists are empty or one of six errors is returned (`masks_classify`).
-/
namespace Rtcm.MsmLaws
open Rtcm.Msm Rtcm.Schema
open Rtcm.Sig (TableOk)

theorem nodup_map_of_nodup_map {α β γ} {f : α → β} {g : α → γ} {l : List α} (h : (l.map g).Nodup)
    (hfg : ∀ x ∈ l, ∀ y ∈ l, f x = f y → g x = g y) : (l.map f).Nodup := by
  unfold List.Nodup at h ⊢
  rw [List.pairwise_map] at h ⊢
  exact h.imp_of_mem fun hx hy hne e => hne (hfg _ hx _ hy e)

/-- `Q pre x` is what `x` must satisfy after `pre`: the shape of every test the encoder makes in a loop -/
theorem first_bad_or_ok {α} {P : List α → Prop} {Q : List α → α → Prop} (h0 : P [])
    (hsnoc : ∀ pre x, P pre → Q pre x → P (pre ++ [x])) (l : List α) :
    (∃ pre x post, l = pre ++ x :: post ∧ P pre ∧ ¬ Q pre x) ∨ P l := by
  induction l using List.reverseRecOn with
  | nil => exact Or.inr h0
  | append_singleton init x ih =>
    rcases ih with ⟨pre, y, post, e, h1, h2⟩ | hi
    · exact Or.inl ⟨pre, y, post ++ [x], by rw [e, List.append_assoc, List.cons_append], h1, h2⟩
    · by_cases hq : Q init x
      · exact Or.inr (hsnoc init x hi hq)
      · exact Or.inl ⟨init, x, [], rfl, hi, hq⟩

theorem nodup_map_snoc {α β} (f : α → β) (pre : List α) (x : α) (h : (pre.map f).Nodup)
    (hx : f x ∉ pre.map f) : ((pre ++ [x]).map f).Nodup := by
  rw [List.map_append, List.nodup_append]
  refine ⟨h, List.nodup_singleton _, fun a ha b hb e => hx ?_⟩
  rw [List.map_singleton, List.mem_singleton] at hb
  rwa [← hb, ← e]

theorem foldl_err_at {α σ} {step : Res σ → α → Res σ} {pre post : List α} {x : α} {a s : σ} {e : RtcmError}
    (hs : ∀ x, step (.err e) x = .err e) (hpre : pre.foldl step (.ok a) = .ok s)
    (hx : step (.ok s) x = .err e) : (pre ++ x :: post).foldl step (.ok a) = .err e := by
  rw [List.foldl_append, hpre, List.foldl_cons, hx, List.foldl_fixed' hs]

/-- the step the satellite loop and the cell loop share -/
def posStep {γ} (e : RtcmError) (f : γ → Nat) (acc : Res Nat) (c : γ) : Res Nat :=
  match acc with
  | .ok mask => if mask &&& 2 ^ f c > 0 then .err e else .ok (mask ||| 2 ^ f c)
  | r => r

theorem posStep_ok {γ} (e : RtcmError) (f : γ → Nat) (m : Nat) (c : γ) :
    posStep e f (.ok m) c = if m.testBit (f c) = true then .err e else .ok (m ||| 2 ^ f c) := by
  simp only [posStep, gt_iff_lt, Nat.pos_iff_ne_zero, ne_eq, Bits.and_two_pow_eq_zero_iff, Bool.not_eq_false]

theorem posFold_good {γ} (e : RtcmError) (f : γ → Nat) (l : List γ) (m : Nat)
    (hnd : (l.map f).Nodup) (hm : ∀ c ∈ l, m.testBit (f c) = false) :
    l.foldl (posStep e f) (.ok m) = .ok (orF f l m) := by
  induction l generalizing m with
  | nil => rfl
  | cons c l ih =>
    simp only [List.map_cons, List.nodup_cons, List.mem_map, not_exists, not_and] at hnd
    rw [List.foldl_cons, orF_cons, posStep_ok, if_neg (Bool.eq_false_iff.mp (hm c (.head _)))]
    apply ih _ hnd.2
    intro d hd
    rw [Nat.testBit_or, Nat.testBit_two_pow, hm d (.tail _ hd)]
    simpa using Ne.symm (hnd.1 d hd)

theorem posFold_dup {γ} (e : RtcmError) (f : γ → Nat) (pre post : List γ) (c : γ)
    (hnd : (pre.map f).Nodup) (hdup : f c ∈ pre.map f) :
    (pre ++ c :: post).foldl (posStep e f) (.ok 0) = .err e := by
  refine foldl_err_at (fun _ => rfl) (posFold_good e f pre 0 hnd fun _ _ => Nat.zero_testBit _) ?_
  rw [posStep_ok, if_pos]
  obtain ⟨d, hd, hdc⟩ := List.mem_map.mp hdup
  exact (testBit_orF ..).mpr (Or.inr ⟨d, hd, hdc⟩)

def satMaskOf (sats : List SatRow) : Nat := idMask 64 (sats.map (·.id))

theorem satStep_in (acc : Res Nat) (r : SatRow) (h : 1 ≤ r.id ∧ r.id ≤ 64) :
    satMaskStep acc r = posStep .duplicateSatellite (fun r : SatRow => 64 - r.id) acc r := by
  have h' : 0 < r.id ∧ r.id ≤ 64 := h  -- the model tests `0 < id`; `simp` does not see `1 ≤ id` as that
  cases acc with
  | ok m => simp [satMaskStep, posStep, h']
  | err e => rfl
  | panic w => rfl

theorem satStep_out (m : Nat) (r : SatRow) (h : ¬ (1 ≤ r.id ∧ r.id ≤ 64)) :
    satMaskStep (.ok m) r = .err .invalidSatelliteId := by
  have h' : ¬ (0 < r.id ∧ r.id ≤ 64) := h
  simp [satMaskStep, h']

/-- what the satellite loop has checked when it completes -/
def SatsOk (sats : List SatRow) : Prop := (∀ r ∈ sats, 1 ≤ r.id ∧ r.id ≤ 64) ∧ (sats.map (·.id)).Nodup

theorem SatsOk.idsIn {sats : List SatRow} (h : SatsOk sats) : IdsIn 64 (sats.map (·.id)) :=
  List.forall_mem_map.mpr h.1

theorem satFold_good {sats : List SatRow} (h : SatsOk sats) :
    sats.foldl satMaskStep (.ok 0) = .ok (satMaskOf sats) := by
  rw [List.foldl_ext _ _ _ fun acc r hr => satStep_in acc r (h.1 r hr), satMaskOf, idMask, orF_map]
  refine posFold_good _ _ sats 0 (nodup_map_of_nodup_map h.2 fun x hx y hy e => ?_)
    fun _ _ => Nat.zero_testBit _
  have := h.1 x hx; have := h.1 y hy
  show x.id = y.id
  omega

theorem satFold_invalid {pre : List SatRow} (post : List SatRow) {r : SatRow} (h : SatsOk pre)
    (hr : ¬ (1 ≤ r.id ∧ r.id ≤ 64)) :
    (pre ++ r :: post).foldl satMaskStep (.ok 0) = .err .invalidSatelliteId :=
  foldl_err_at (fun _ => rfl) (satFold_good h) (satStep_out _ _ hr)

theorem satFold_dup {pre : List SatRow} (post : List SatRow) {r : SatRow} (h : SatsOk pre)
    (hr : 1 ≤ r.id ∧ r.id ≤ 64) (hd : r.id ∈ pre.map (·.id)) :
    (pre ++ r :: post).foldl satMaskStep (.ok 0) = .err .duplicateSatellite := by
  refine foldl_err_at (fun _ => rfl) (satFold_good h) ?_
  rw [satStep_in _ _ hr, posStep_ok, if_pos]
  exact (testBit_idMask h.idsIn hr.2).mpr hd

def sigIdOf (tbl : SigTable) (g : SigRow) : Nat := (Sig.toId tbl g.band g.attr).getD 0
def cellOf (tbl : SigTable) (g : SigRow) : Nat × Nat := (g.sat, sigIdOf tbl g)
def cellKey (g : SigRow) : Nat × Nat × Nat := (g.sat, g.band, g.attr)

/-- what the signal loop checks of a row -/
def SigGood (tbl : SigTable) (g : SigRow) : Prop :=
  (1 ≤ g.sat ∧ g.sat ≤ 64) ∧ ∃ i, Sig.toId tbl g.band g.attr = some i

def sigMaskOf (tbl : SigTable) (sigs : List SigRow) : Nat := idMask 32 (sigs.map (sigIdOf tbl))

theorem sigIdOf_eq (tbl : SigTable) (g : SigRow) (i : Nat) (h : Sig.toId tbl g.band g.attr = some i) :
    sigIdOf tbl g = i := by rw [sigIdOf, h, Option.getD_some]

theorem sigIdOf_range {tbl : SigTable} (hT : TableOk tbl) {g : SigRow}
    (h : ∃ i, Sig.toId tbl g.band g.attr = some i) :
    (2 ≤ sigIdOf tbl g ∧ sigIdOf tbl g ≤ 32) ∧ Sig.toId tbl g.band g.attr = some (sigIdOf tbl g) := by
  obtain ⟨i, hi⟩ := h
  rw [sigIdOf_eq tbl g i hi]
  exact ⟨hT.range _ _ _ hi, hi⟩

theorem cellKey_of_cellOf {tbl : SigTable} (hT : TableOk tbl) {g g' : SigRow}
    (hg : Sig.toId tbl g.band g.attr = some (sigIdOf tbl g))
    (hg' : Sig.toId tbl g'.band g'.attr = some (sigIdOf tbl g')) (e : cellOf tbl g = cellOf tbl g') :
    cellKey g = cellKey g' := by
  simp only [cellOf, Prod.mk.injEq] at e
  have := C18.toId_injective tbl hT.ids_nodup (g.band, g.attr) (g'.band, g'.attr) _ hg (e.2 ▸ hg')
  simp only [Prod.mk.injEq] at this
  simp only [cellKey, e.1, this]

theorem sigStep_good {tbl : SigTable} (hT : TableOk tbl) (a : SigAcc) {g : SigRow} (h : SigGood tbl g) :
    sigStep tbl (.ok a) g = .ok ⟨a.sigMask ||| 2 ^ (32 - sigIdOf tbl g),
      a.satSigMask ||| 2 ^ (64 - g.sat), a.cells ++ [cellOf tbl g]⟩ := by
  obtain ⟨hin, i, hi⟩ := h
  have h' : 0 < g.sat ∧ g.sat ≤ 64 := hin
  have hr := hT.range _ _ _ hi
  have : ¬ (i > 32 ∨ i = 0) := by omega
  simp [sigStep, h', hi, this, sigIdOf, cellOf]

theorem sigStep_out (tbl : SigTable) (a : SigAcc) (g : SigRow) (h : ¬ (1 ≤ g.sat ∧ g.sat ≤ 64)) :
    sigStep tbl (.ok a) g = .err .invalidSatelliteId := by
  have h' : ¬ (0 < g.sat ∧ g.sat ≤ 64) := h
  simp [sigStep, h']

theorem sigStep_unknown (tbl : SigTable) (a : SigAcc) (g : SigRow) (h : 1 ≤ g.sat ∧ g.sat ≤ 64)
    (hu : Sig.toId tbl g.band g.attr = none) : sigStep tbl (.ok a) g = .err .invalidSignalId := by
  have h' : 0 < g.sat ∧ g.sat ≤ 64 := h
  simp [sigStep, h', hu]

theorem sigFold_good {tbl : SigTable} (hT : TableOk tbl) {sigs : List SigRow} (a : SigAcc)
    (h : ∀ g ∈ sigs, SigGood tbl g) :
    sigs.foldl (sigStep tbl) (.ok a) = .ok ⟨orF (32 - ·) (sigs.map (sigIdOf tbl)) a.sigMask,
      orF (64 - ·) (sigs.map (·.sat)) a.satSigMask, a.cells ++ sigs.map (cellOf tbl)⟩ := by
  induction sigs generalizing a with
  | nil => simp only [List.foldl_nil, List.map_nil, orF_nil, List.append_nil]
  | cons g l ih =>
    rw [List.foldl_cons, sigStep_good hT a (h g (.head _)), ih _ fun x hx => h x (.tail _ hx)]
    simp only [List.map_cons, orF_cons, List.append_assoc, List.singleton_append]

theorem sigFold_invalid {tbl : SigTable} (hT : TableOk tbl) {pre : List SigRow} (post : List SigRow)
    {g : SigRow} (a : SigAcc) (h : ∀ g ∈ pre, SigGood tbl g) (hg : ¬ (1 ≤ g.sat ∧ g.sat ≤ 64)) :
    (pre ++ g :: post).foldl (sigStep tbl) (.ok a) = .err .invalidSatelliteId :=
  foldl_err_at (fun _ => rfl) (sigFold_good hT a h) (sigStep_out _ _ _ hg)

theorem sigFold_unknown {tbl : SigTable} (hT : TableOk tbl) {pre : List SigRow} (post : List SigRow)
    {g : SigRow} (a : SigAcc) (h : ∀ g ∈ pre, SigGood tbl g) (hg : 1 ≤ g.sat ∧ g.sat ≤ 64)
    (hu : Sig.toId tbl g.band g.attr = none) :
    (pre ++ g :: post).foldl (sigStep tbl) (.ok a) = .err .invalidSignalId :=
  foldl_err_at (fun _ => rfl) (sigFold_good hT a h) (sigStep_unknown _ _ _ hg hu)

def satLe (a b : SatRow) : Bool := decide (a.id ≤ b.id)

theorem satLe_total (a b : SatRow) : satLe a b = true ∨ satLe b a = true := by
  simp only [satLe, decide_eq_true_eq]; omega

theorem satLe_trans (a b c : SatRow) : satLe a b = true → satLe b c = true → satLe a c = true := by
  simp only [satLe, decide_eq_true_eq]; omega

theorem sigLe_iff (tbl : SigTable) (a b : SigRow) :
    sigLe tbl a b = true ↔ a.sat < b.sat ∨ (a.sat = b.sat ∧
      C18.lex3Le (C18.key tbl (a.band, a.attr)) (C18.key tbl (b.band, b.attr))) := by
  unfold sigLe
  rw [← C18.cmp_ne_gt_iff]
  split
  · next hlt => exact ⟨fun _ => Or.inl hlt, fun _ => rfl⟩
  · split
    · next hgt => exact ⟨fun h => (nomatch h), fun h => by omega⟩
    · next hge hle =>
      have he : a.sat = b.sat := by omega
      rw [bne_iff_ne]
      exact ⟨fun h => Or.inr ⟨he, h⟩, fun h => (h.resolve_left hge).2⟩

theorem sigLe_known {tbl : SigTable} {a b : SigRow} {i j : Nat} (hi : Sig.toId tbl a.band a.attr = some i)
    (hj : Sig.toId tbl b.band b.attr = some j) :
    sigLe tbl a b = true ↔ a.sat < b.sat ∨ (a.sat = b.sat ∧ i ≤ j) := by
  simp only [sigLe_iff, C18.lex3Le, C18.key, hi, hj, Nat.lt_irrefl, true_and, false_or, Nat.le_refl, and_true,
    Nat.le_iff_lt_or_eq]

theorem sigLe_total (tbl : SigTable) (a b : SigRow) : sigLe tbl a b = true ∨ sigLe tbl b a = true := by
  simp only [sigLe_iff]
  rcases Nat.lt_trichotomy a.sat b.sat with h | h | h
  · exact Or.inl (Or.inl h)
  · exact (C18.lex3Le_total _ _).imp (fun k => Or.inr ⟨h, k⟩) fun k => Or.inr ⟨h.symm, k⟩
  · exact Or.inr (Or.inl h)

theorem sigLe_trans (tbl : SigTable) (a b c : SigRow) :
    sigLe tbl a b = true → sigLe tbl b c = true → sigLe tbl a c = true := by
  simp only [sigLe_iff]
  rintro (h1 | ⟨h1, k1⟩) (h2 | ⟨h2, k2⟩)
  · exact Or.inl (Nat.lt_trans h1 h2)
  · exact Or.inl (h2 ▸ h1)
  · exact Or.inl (h1 ▸ h2)
  · exact Or.inr ⟨h1.trans h2, C18.lex3Le_trans k1 k2⟩

theorem sigLe_antisymm_key (tbl : SigTable) (hT : TableOk tbl) (a b : SigRow)
    (h1 : sigLe tbl a b = true) (h2 : sigLe tbl b a = true) : cellKey a = cellKey b := by
  simp only [sigLe_iff] at h1 h2
  have hs : a.sat = b.sat := by omega
  have k1 := (h1.resolve_left (by omega)).2
  have k2 := (h2.resolve_left (by omega)).2
  -- equal keys compare equal, and `cmp` is equal only on identical descriptors
  have := (C18.cmp_total_order tbl hT.ids_nodup).2.1 (a.band, a.attr) (b.band, b.attr)
    (by rw [C18.cmp_eq_lex, C18.lex3Le_antisymm k1 k2, C18.lex3_eq_iff])
  simp only [Prod.mk.injEq] at this
  simp only [cellKey, hs, this]

theorem sats_sort_unique {sats s : List SatRow} (hnd : (sats.map (·.id)).Nodup) (hp : s.Perm sats)
    (hs : s.Pairwise (fun a b => satLe a b = true)) : Sig.sortBy satLe sats = s := by
  refine Sig.sortBy_unique satLe_total satLe_trans hp hs fun a ha b hb h1 h2 => ?_
  simp only [satLe, decide_eq_true_eq] at h1 h2
  exact List.inj_on_of_nodup_map hnd ha hb (by omega)

theorem sigs_sort_unique (tbl : SigTable) (hT : TableOk tbl) {sigs s : List SigRow}
    (hnd : (sigs.map cellKey).Nodup) (hp : s.Perm sigs) (hs : s.Pairwise (fun a b => sigLe tbl a b = true)) :
    Sig.sortBy (sigLe tbl) sigs = s :=
  Sig.sortBy_unique (sigLe_total tbl) (sigLe_trans tbl) hp hs fun a ha b hb h1 h2 =>
    List.inj_on_of_nodup_map hnd ha hb (sigLe_antisymm_key tbl hT a b h1 h2)

theorem sats_sort_perm (sats sats' : List SatRow) (hnd : (sats.map (·.id)).Nodup) (hs : sats'.Perm sats) :
    Sig.sortBy satLe sats' = Sig.sortBy satLe sats :=
  (sats_sort_unique hnd ((Sig.sortBy_perm _ _).trans hs) (Sig.sortBy_sorted satLe_total satLe_trans _)).symm

theorem sigs_sort_perm (tbl : SigTable) (hT : TableOk tbl) (sigs sigs' : List SigRow)
    (hnd : (sigs.map cellKey).Nodup) (hg : sigs'.Perm sigs) :
    Sig.sortBy (sigLe tbl) sigs' = Sig.sortBy (sigLe tbl) sigs :=
  (sigs_sort_unique tbl hT hnd ((Sig.sortBy_perm _ _).trans hg)
    (Sig.sortBy_sorted (sigLe_total tbl) (sigLe_trans tbl) _)).symm

theorem sats_sorted_strict (sats : List SatRow) (hnd : (sats.map (·.id)).Nodup) :
    (Sig.sortBy satLe sats).Pairwise (fun a b => a.id < b.id) := by
  refine (Sig.sortBy_sorted_ne satLe_total satLe_trans hnd).imp fun {a b} ⟨h, hne⟩ => ?_
  simp only [satLe, decide_eq_true_eq] at h
  omega

theorem sigs_sorted_strict (tbl : SigTable) (hT : TableOk tbl) (sigs : List SigRow)
    (hk : ∀ g ∈ sigs, ∃ i, Sig.toId tbl g.band g.attr = some i) (hnd : (sigs.map cellKey).Nodup) :
    (Sig.sortBy (sigLe tbl) sigs).Pairwise
      (fun a b => a.sat < b.sat ∨ (a.sat = b.sat ∧ sigIdOf tbl a < sigIdOf tbl b)) := by
  refine (Sig.sortBy_sorted_ne (sigLe_total tbl) (sigLe_trans tbl) hnd).imp_of_mem
    fun {a b} ha hb ⟨h, hne⟩ => ?_
  have ia := (sigIdOf_range hT (hk a ((Sig.mem_sortBy _).mp ha))).2
  have ib := (sigIdOf_range hT (hk b ((Sig.mem_sortBy _).mp hb))).2
  rw [sigLe_known ia ib] at h
  have : cellOf tbl a ≠ cellOf tbl b := mt (cellKey_of_cellOf hT ia ib) hne
  simp only [cellOf, ne_eq, Prod.mk.injEq] at this
  omega

/-- the distinct recognised signal identifiers used by the signal rows, ascending (`G`) -/
def sigIdSet (tbl : SigTable) (sigs : List SigRow) : List Nat :=
  (List.range 33).filter fun i => sigs.any fun g => Sig.toId tbl g.band g.attr == some i

theorem mem_sigIdSet (tbl : SigTable) (hT : TableOk tbl) (sigs : List SigRow) (i : Nat) :
    i ∈ sigIdSet tbl sigs ↔ ∃ g ∈ sigs, Sig.toId tbl g.band g.attr = some i := by
  unfold sigIdSet
  simp only [List.mem_filter, List.mem_range, List.any_eq_true, beq_iff_eq]
  constructor
  · exact fun h => h.2
  · rintro ⟨g, hg, e⟩
    have := hT.range _ _ _ e
    exact ⟨by omega, g, hg, e⟩

theorem sigIdSet_sorted (tbl : SigTable) (sigs : List SigRow) : (sigIdSet tbl sigs).Pairwise (· < ·) :=
  List.Pairwise.filter _ List.pairwise_lt_range

theorem sigIdSet_range (tbl : SigTable) (hT : TableOk tbl) (sigs : List SigRow) (i : Nat)
    (h : i ∈ sigIdSet tbl sigs) : 1 ≤ i ∧ i ≤ 32 := by
  obtain ⟨g, _, e⟩ := (mem_sigIdSet tbl hT sigs i).mp h
  have := hT.range _ _ _ e
  omega

-- with smart unfolding off the defeq check sees the model's three-way matches as the `casesOn` terms of
-- `bind`
set_option smartUnfolding false in
theorem masks_eq (tbl : SigTable) (sats : List SatRow) (sigs : List SigRow) :
    masks tbl sats sigs =
      if sats.length = 0 ∧ sigs.length = 0 then .ok none else
      (sats.foldl satMaskStep (.ok 0)).bind fun satMask =>
      (sigs.foldl (sigStep tbl) (.ok { sigMask := 0, satSigMask := 0, cells := [] })).bind fun a =>
        if satMask ≠ a.satSigMask then .err .satelliteMismatch
        else if popcount 32 a.sigMask * sats.length > 64 then .err .invalidSatelliteSignalCount
        else (a.cells.foldl (cellStep satMask a.sigMask (popcount 32 a.sigMask)
            (popcount 32 a.sigMask * sats.length)) (.ok 0)).bind fun cellMask =>
          .ok (some (satMask, a.sigMask, cellMask, popcount 32 a.sigMask * sats.length)) := rfl

theorem not_both_empty {α β} {l : List α} {l' : List β} (h : l ≠ [] ∨ l' ≠ []) :
    ¬ (l.length = 0 ∧ l'.length = 0) := by
  rw [List.length_eq_zero_iff, List.length_eq_zero_iff]
  exact not_and_or.mpr h

/-- the identifiers of the satellite mask (`RowsOk.maskIds_sat`) -/
def satIds (sats : List SatRow) : List Nat := (Sig.sortBy satLe sats).map (·.id)

theorem satIds_perm (sats : List SatRow) : (satIds sats).Perm (sats.map (·.id)) :=
  (Sig.sortBy_perm satLe sats).map _

theorem satIds_length (sats : List SatRow) : (satIds sats).length = sats.length := by
  rw [(satIds_perm sats).length_eq, List.length_map]

theorem satIds_sorted {sats : List SatRow} (hnd : (sats.map (·.id)).Nodup) : (satIds sats).Pairwise (· < ·) :=
  List.pairwise_map.mpr (sats_sorted_strict sats hnd)

/-- the bit of `cell_mask` that belongs to a cell: `cell_cont_len - 1 - cell_indx` -/
def cellPos (tbl : SigTable) (sats : List SatRow) (sigs : List SigRow) (c : Nat × Nat) : Nat :=
  (sigIdSet tbl sigs).length * sats.length - 1 - cellIdx (satIds sats) (sigIdSet tbl sigs) c

/-- the `cell_mask` the cell loop builds when no cell repeats -/
def cellMaskOf (tbl : SigTable) (sats : List SatRow) (sigs : List SigRow) : Nat :=
  orF (cellPos tbl sats sigs) (sigs.map (cellOf tbl)) 0

/-- `sat_mask == sat_sig_mask`, in terms of the rows (`satMask_eq_iff`) -/
def SameSats (sats : List SatRow) (sigs : List SigRow) : Prop :=
  (∀ r ∈ sats, ∃ g ∈ sigs, g.sat = r.id) ∧ (∀ g ∈ sigs, ∃ r ∈ sats, r.id = g.sat)

/-- both row loops and the comparison of the satellite sets succeeded -/
structure RowsOk (tbl : SigTable) (sats : List SatRow) (sigs : List SigRow) : Prop where
  sats_ok : SatsOk sats
  sig_good : ∀ g ∈ sigs, SigGood tbl g
  same_sats : SameSats sats sigs
  nonempty : sats ≠ []

theorem satMask_eq_iff {tbl : SigTable} {sats : List SatRow} {sigs : List SigRow} (hs : SatsOk sats)
    (hg : ∀ g ∈ sigs, SigGood tbl g) :
    satMaskOf sats = idMask 64 (sigs.map (·.sat)) ↔ SameSats sats sigs := by
  rw [satMaskOf, idMask_eq_iff hs.idsIn (List.forall_mem_map.mpr fun g h => (hg g h).1)]
  simp only [List.mem_map, SameSats]
  constructor
  · exact fun h => ⟨fun r hr => (h r.id).mp ⟨r, hr, rfl⟩, fun g hg => (h g.sat).mpr ⟨g, hg, rfl⟩⟩
  · rintro ⟨h1, h2⟩ s
    constructor
    · rintro ⟨r, hr, rfl⟩; exact h1 r hr
    · rintro ⟨g, hg, rfl⟩; exact h2 g hg

theorem sigFold_good0 {tbl : SigTable} (hT : TableOk tbl) {sigs : List SigRow}
    (h : ∀ g ∈ sigs, SigGood tbl g) :
    sigs.foldl (sigStep tbl) (.ok { sigMask := 0, satSigMask := 0, cells := [] }) =
      .ok ⟨sigMaskOf tbl sigs, idMask 64 (sigs.map (·.sat)), sigs.map (cellOf tbl)⟩ := by
  rw [sigFold_good hT _ h]; rfl

section rowsOk
variable {tbl : SigTable} (hT : TableOk tbl) {sats : List SatRow} {sigs : List SigRow}
  (P : RowsOk tbl sats sigs)
include hT P

omit hT in
theorem RowsOk.maskIds_sat : maskIds 64 (satMaskOf sats) = satIds sats :=
  maskIds_idMask P.sats_ok.idsIn (satIds_sorted P.sats_ok.2) fun _ => (satIds_perm sats).mem_iff

theorem RowsOk.sig_mem (g : SigRow) (hg : g ∈ sigs) :
    g.sat ∈ satIds sats ∧ sigIdOf tbl g ∈ sigIdSet tbl sigs ∧
      Sig.toId tbl g.band g.attr = some (sigIdOf tbl g) := by
  obtain ⟨r, hr, e⟩ := P.same_sats.2 g hg
  have := (sigIdOf_range hT (P.sig_good g hg).2).2
  exact ⟨(satIds_perm sats).mem_iff.mpr (List.mem_map.mpr ⟨r, hr, e⟩),
    (mem_sigIdSet tbl hT sigs _).mpr ⟨g, hg, this⟩, this⟩

theorem RowsOk.sigIds_in : IdsIn 32 (sigs.map (sigIdOf tbl)) :=
  List.forall_mem_map.mpr fun g hg => by have := (sigIdOf_range hT (P.sig_good g hg).2).1; omega

theorem RowsOk.maskIds_sig : maskIds 32 (sigMaskOf tbl sigs) = sigIdSet tbl sigs := by
  refine maskIds_idMask (P.sigIds_in hT) (sigIdSet_sorted tbl sigs) fun i => ?_
  · rw [mem_sigIdSet tbl hT, List.mem_map]
    constructor
    · rintro ⟨g, hg, e⟩; exact ⟨g, hg, sigIdOf_eq tbl g i e⟩
    · rintro ⟨g, hg, rfl⟩; exact ⟨g, hg, (P.sig_mem hT g hg).2.2⟩

omit hT in
theorem RowsOk.popcount_sat : popcount 64 (satMaskOf sats) = sats.length := by
  rw [← maskIds_length, P.maskIds_sat, satIds_length]

theorem RowsOk.popcount_sig : popcount 32 (sigMaskOf tbl sigs) = (sigIdSet tbl sigs).length := by
  rw [← maskIds_length, P.maskIds_sig hT]

omit hT in
theorem RowsOk.sat_bits (s : Nat) (h2 : s ≤ 64) :
    (satMaskOf sats).testBit (64 - s) = true ↔ ∃ r ∈ sats, r.id = s := by
  rw [satMaskOf, testBit_idMask P.sats_ok.idsIn h2, List.mem_map]

theorem RowsOk.sig_bits (i : Nat) (h1 : 1 ≤ i) (h2 : i ≤ 32) :
    (sigMaskOf tbl sigs).testBit (32 - i) = true ↔ ∃ g ∈ sigs, Sig.toId tbl g.band g.attr = some i := by
  rw [← mem_sigIdSet tbl hT, ← P.maskIds_sig hT, mem_maskIds]
  simp only [h1, h2, true_and]

omit hT in
theorem RowsOk.sat_rank (r : SatRow) (hr : r ∈ sats) :
    rankOf 64 (satMaskOf sats) r.id = rankIn (sats.map (·.id)) r.id ∧
      rankIn (sats.map (·.id)) r.id < sats.length := by
  have := P.sats_ok.1 r hr
  rw [rankOf_eq _ _ _ (by omega), P.maskIds_sat, rankIn_perm (satIds_perm sats).symm, ← satIds_length sats]
  exact ⟨rfl, rankIn_lt_length (satIds_sorted P.sats_ok.2)
    ((satIds_perm sats).mem_iff.mpr (List.mem_map_of_mem hr))⟩

theorem RowsOk.sig_rank (i : Nat) (hi : i ∈ sigIdSet tbl sigs) :
    rankOf 32 (sigMaskOf tbl sigs) i = rankIn (sigIdSet tbl sigs) i ∧
      rankIn (sigIdSet tbl sigs) i < (sigIdSet tbl sigs).length := by
  have := sigIdSet_range tbl hT sigs i hi
  rw [rankOf_eq _ _ _ (by omega), P.maskIds_sig hT]
  exact ⟨rfl, rankIn_lt_length (sigIdSet_sorted tbl sigs) hi⟩

theorem RowsOk.cellLen_pos : 1 ≤ (sigIdSet tbl sigs).length * sats.length := by
  obtain ⟨r, hr⟩ := List.exists_mem_of_ne_nil _ P.nonempty
  obtain ⟨g, hg, _⟩ := P.same_sats.1 r hr
  exact Nat.mul_le_mul (List.length_pos_of_mem (P.sig_mem hT g hg).2.1) (List.length_pos_iff.mpr P.nonempty)

/-- the bound is what keeps `cell_cont_len - 1 - cell_indx` from underflowing -/
theorem RowsOk.cell_idx (g : SigRow) (hg : g ∈ sigs) :
    rankOf 64 (satMaskOf sats) g.sat * (sigIdSet tbl sigs).length +
        rankOf 32 (sigMaskOf tbl sigs) (sigIdOf tbl g)
      = cellIdx (satIds sats) (sigIdSet tbl sigs) (cellOf tbl g) ∧
    cellIdx (satIds sats) (sigIdSet tbl sigs) (cellOf tbl g) < sats.length * (sigIdSet tbl sigs).length := by
  have hm := P.sig_mem hT g hg
  have h1 := (P.sig_good g hg).1
  have h2 := sigIdSet_range tbl hT sigs _ hm.2.1
  rw [rankOf_eq _ _ _ (by omega), rankOf_eq _ _ _ (by omega), P.maskIds_sat, P.maskIds_sig hT,
    ← satIds_length sats]
  exact ⟨rfl, cellIdx_lt (satIds_sorted P.sats_ok.2) (sigIdSet_sorted tbl sigs) hm.1 hm.2.1⟩

theorem RowsOk.cell_idx_lt (g : SigRow) (hg : g ∈ sigs) :
    rankOf 64 (satMaskOf sats) g.sat * popcount 32 (sigMaskOf tbl sigs) +
      rankOf 32 (sigMaskOf tbl sigs) (sigIdOf tbl g) < (sigIdSet tbl sigs).length * sats.length := by
  rw [P.popcount_sig hT, (P.cell_idx hT g hg).1, Nat.mul_comm]
  exact (P.cell_idx hT g hg).2

/-- the position determines satellite and signal identifier, the identifier the signal -/
theorem RowsOk.cellPos_inj (g g' : SigRow) (hg : g ∈ sigs) (hg' : g' ∈ sigs)
    (h : cellPos tbl sats sigs (cellOf tbl g) = cellPos tbl sats sigs (cellOf tbl g')) :
    cellKey g = cellKey g' := by
  have c1 := (P.cell_idx hT g hg).2
  have c2 := (P.cell_idx hT g' hg').2
  have m1 := P.sig_mem hT g hg
  have m2 := P.sig_mem hT g' hg'
  unfold cellPos at h
  rw [Nat.mul_comm] at h
  exact cellKey_of_cellOf hT m1.2.2 m2.2.2 (cellIdx_inj (satIds_sorted P.sats_ok.2)
    (sigIdSet_sorted tbl sigs) m1.1 m1.2.1 m2.1 m2.2.1 (by omega))

theorem RowsOk.masks_cells :
    masks tbl sats sigs =
      if (sigIdSet tbl sigs).length * sats.length > 64 then .err .invalidSatelliteSignalCount
      else ((sigs.map (cellOf tbl)).foldl
          (posStep .duplicateSatelliteSignal (cellPos tbl sats sigs)) (.ok 0)).bind
        fun cellMask => .ok (some (satMaskOf sats, sigMaskOf tbl sigs, cellMask,
            (sigIdSet tbl sigs).length * sats.length)) := by
  rw [masks_eq, if_neg (not_both_empty (Or.inl P.nonempty)), satFold_good P.sats_ok,
    sigFold_good0 hT P.sig_good]
  simp only [Res.bind]
  rw [if_neg (not_not.mpr ((satMask_eq_iff P.sats_ok P.sig_good).mpr P.same_sats)),
    P.popcount_sig hT]
  congr 2
  refine List.foldl_ext _ _ _ fun acc c hc => ?_
  obtain ⟨g, hg, rfl⟩ := List.mem_map.mp hc
  have e : rankOf 64 (satMaskOf sats) (cellOf tbl g).1 * (sigIdSet tbl sigs).length +
      rankOf 32 (sigMaskOf tbl sigs) (cellOf tbl g).2 = _ := (P.cell_idx hT g hg).1
  cases acc with
  | ok m => simp only [cellStep, posStep, cellPos, e]; rfl
  | err e => rfl
  | panic w => rfl

theorem RowsOk.cellMask_bit (idx : Nat) (h : idx < sats.length * (sigIdSet tbl sigs).length) :
    (cellMaskOf tbl sats sigs).testBit ((sigIdSet tbl sigs).length * sats.length - 1 - idx) = true ↔
      ∃ g ∈ sigs, cellIdx (satIds sats) (sigIdSet tbl sigs) (cellOf tbl g) = idx := by
  unfold cellMaskOf
  rw [testBit_orF]
  simp only [Nat.zero_testBit, Bool.false_eq_true, false_or, List.mem_map, exists_exists_and_eq_and, cellPos]
  refine exists_congr fun g => and_congr_right fun hg => ?_
  have := (P.cell_idx hT g hg).2
  rw [Nat.mul_comm] at h this
  omega

theorem RowsOk.cell_bits (s i : Nat) (hs : ∃ r ∈ sats, r.id = s) (hi : i ∈ sigIdSet tbl sigs) :
    (cellMaskOf tbl sats sigs).testBit ((sigIdSet tbl sigs).length * sats.length - 1 -
        (rankIn (sats.map (·.id)) s * (sigIdSet tbl sigs).length + rankIn (sigIdSet tbl sigs) i)) = true ↔
      ∃ g ∈ sigs, g.sat = s ∧ Sig.toId tbl g.band g.attr = some i := by
  have hS := satIds_sorted P.sats_ok.2
  have hG := sigIdSet_sorted tbl sigs
  obtain ⟨r, hr, rfl⟩ := hs
  have h1 : r.id ∈ satIds sats := (satIds_perm sats).mem_iff.mpr (List.mem_map_of_mem hr)
  have c2 := cellIdx_lt (c := (r.id, i)) hS hG h1 hi
  rw [satIds_length] at c2
  rw [rankIn_perm (satIds_perm sats).symm]
  refine (P.cellMask_bit hT _ c2).trans (exists_congr fun g => and_congr_right fun hg => ?_)
  have m := P.sig_mem hT g hg
  constructor
  · intro e
    have := cellIdx_inj (c := cellOf tbl g) (c' := (r.id, i)) hS hG m.1 m.2.1 h1 hi e
    simp only [cellOf, Prod.mk.injEq] at this
    exact ⟨this.1, this.2 ▸ m.2.2⟩
  · rintro ⟨e1, e2⟩
    rw [cellOf, e1, sigIdOf_eq tbl g i e2]

theorem RowsOk.cellMaskOf_lt : cellMaskOf tbl sats sigs < 2 ^ ((sigIdSet tbl sigs).length * sats.length) := by
  apply orF_lt _ _ _ _ (Nat.two_pow_pos _)
  intro c _
  have := P.cellLen_pos hT
  unfold cellPos
  omega

end rowsOk

/-- preconditions of the encoder (satellites `S`, cells `C` over recognised signals `G`) -/
structure Pre (tbl : SigTable) (sats : List SatRow) (sigs : List SigRow) : Prop where
  sat_range : ∀ r ∈ sats, 1 ≤ r.id ∧ r.id ≤ 64
  sat_distinct : (sats.map (·.id)).Nodup
  sig_sat_range : ∀ g ∈ sigs, 1 ≤ g.sat ∧ g.sat ≤ 64
  sig_known : ∀ g ∈ sigs, ∃ i, Sig.toId tbl g.band g.attr = some i
  cell_distinct : (sigs.map fun g => (g.sat, g.band, g.attr)).Nodup
  sats_used : ∀ r ∈ sats, ∃ g ∈ sigs, g.sat = r.id
  sigs_listed : ∀ g ∈ sigs, ∃ r ∈ sats, r.id = g.sat
  nonempty : sats ≠ []
  cells_le : sats.length * (sigIdSet tbl sigs).length ≤ 64

theorem Pre.rowsOk {tbl : SigTable} {sats : List SatRow} {sigs : List SigRow} (P : Pre tbl sats sigs) :
    RowsOk tbl sats sigs :=
  ⟨⟨P.sat_range, P.sat_distinct⟩, fun g hg => ⟨P.sig_sat_range g hg, P.sig_known g hg⟩,
    ⟨P.sats_used, P.sigs_listed⟩, P.nonempty⟩

theorem masks_pre (tbl : SigTable) (hT : TableOk tbl) (sats : List SatRow) (sigs : List SigRow)
    (P : Pre tbl sats sigs) :
    masks tbl sats sigs = .ok (some (satMaskOf sats, sigMaskOf tbl sigs, cellMaskOf tbl sats sigs,
      (sigIdSet tbl sigs).length * sats.length)) := by
  rw [P.rowsOk.masks_cells hT, if_neg (by have := P.cells_le; rw [Nat.mul_comm]; omega), posFold_good]
  · rfl
  · rw [List.map_map]
    exact nodup_map_of_nodup_map P.cell_distinct fun g hg g' hg' h => P.rowsOk.cellPos_inj hT g g' hg hg' h
  · exact fun _ _ => Nat.zero_testBit _

theorem masks_sat_err (tbl : SigTable) (sats : List SatRow) (sigs : List SigRow) (e : RtcmError)
    (h : sats.foldl satMaskStep (.ok 0) = .err e) : masks tbl sats sigs = .err e := by
  rw [masks_eq, if_neg (not_both_empty (Or.inl (by rintro rfl; cases h))), h]; rfl

theorem masks_sig_err (tbl : SigTable) {sats : List SatRow} (sigs : List SigRow) (e : RtcmError)
    (h1 : SatsOk sats)
    (h2 : sigs.foldl (sigStep tbl) (.ok { sigMask := 0, satSigMask := 0, cells := [] }) = .err e) :
    masks tbl sats sigs = .err e := by
  rw [masks_eq, if_neg (not_both_empty (Or.inr (by rintro rfl; cases h2))), satFold_good h1, h2]; rfl

theorem masks_mismatch (tbl : SigTable) (hT : TableOk tbl) (sats : List SatRow) (sigs : List SigRow)
    (hs : SatsOk sats) (hg : ∀ g ∈ sigs, SigGood tbl g) (hne : sats ≠ [] ∨ sigs ≠ [])
    (hmis : ¬ SameSats sats sigs) : masks tbl sats sigs = .err .satelliteMismatch := by
  rw [masks_eq, if_neg (not_both_empty hne), satFold_good hs, sigFold_good0 hT hg]
  simp only [Res.bind]
  rw [if_pos (mt (satMask_eq_iff hs hg).mp hmis)]

theorem masks_too_many (tbl : SigTable) (hT : TableOk tbl) (sats : List SatRow) (sigs : List SigRow)
    (P : RowsOk tbl sats sigs) (h : 64 < sats.length * (sigIdSet tbl sigs).length) :
    masks tbl sats sigs = .err .invalidSatelliteSignalCount := by
  rw [P.masks_cells hT, if_pos (by rw [Nat.mul_comm]; exact h)]

theorem masks_dup_cell (tbl : SigTable) (hT : TableOk tbl) (sats : List SatRow) (sigs : List SigRow)
    (P : RowsOk tbl sats sigs) (h : sats.length * (sigIdSet tbl sigs).length ≤ 64)
    (hdup : ¬ (sigs.map cellKey).Nodup) : masks tbl sats sigs = .err .duplicateSatelliteSignal := by
  obtain ⟨pre, g, post, hsplit, hpre, hdup⟩ := (first_bad_or_ok (P := fun l => (l.map cellKey).Nodup)
    (Q := fun pre g => cellKey g ∉ pre.map cellKey) .nil (nodup_map_snoc cellKey) sigs).resolve_right hdup
  rw [Classical.not_not] at hdup
  have hmem : ∀ x ∈ pre, x ∈ sigs := fun x hx => hsplit ▸ List.mem_append_left _ hx
  rw [P.masks_cells hT, if_neg (by rw [Nat.mul_comm]; omega)]
  conv => lhs; arg 1; arg 3; rw [hsplit, List.map_append, List.map_cons]
  rw [posFold_dup]
  · rfl
  · rw [List.map_map]
    exact nodup_map_of_nodup_map hpre fun x hx y hy h => P.cellPos_inj hT x y (hmem x hx) (hmem y hy) h
  · obtain ⟨d, hd, hk⟩ := List.mem_map.mp hdup
    simp only [cellKey, Prod.mk.injEq] at hk
    refine List.mem_map.mpr ⟨cellOf tbl d, List.mem_map_of_mem hd, ?_⟩
    simp only [cellOf, sigIdOf, hk]

theorem sigIdSet_congr_mem (tbl : SigTable) (l l' : List SigRow) (h : ∀ c, c ∈ l ↔ c ∈ l') :
    sigIdSet tbl l = sigIdSet tbl l' := by
  unfold sigIdSet
  apply List.filter_congr
  intro i _
  rw [Bool.eq_iff_iff, List.any_eq_true, List.any_eq_true]
  simp only [h]

theorem Pre.perm {tbl : SigTable} {sats sats' : List SatRow} {sigs sigs' : List SigRow}
    (P : Pre tbl sats sigs) (hs : sats'.Perm sats) (hg : sigs'.Perm sigs) : Pre tbl sats' sigs' where
  sat_range r hr := P.sat_range r (hs.mem_iff.mp hr)
  sat_distinct := ((hs.map _).nodup_iff).mpr P.sat_distinct
  sig_sat_range g h := P.sig_sat_range g (hg.mem_iff.mp h)
  sig_known g h := P.sig_known g (hg.mem_iff.mp h)
  cell_distinct := ((hg.map _).nodup_iff).mpr P.cell_distinct
  sats_used r hr := by
    obtain ⟨g, h1, h2⟩ := P.sats_used r (hs.mem_iff.mp hr)
    exact ⟨g, hg.mem_iff.mpr h1, h2⟩
  sigs_listed g h := by
    obtain ⟨r, h1, h2⟩ := P.sigs_listed g (hg.mem_iff.mp h)
    exact ⟨r, hs.mem_iff.mpr h1, h2⟩
  nonempty := by
    intro h; rw [h] at hs; exact P.nonempty hs.symm.eq_nil
  cells_le := by
    rw [hs.length_eq, sigIdSet_congr_mem tbl sigs' sigs (fun c => hg.mem_iff)]
    exact P.cells_le

theorem masks_perm (tbl : SigTable) (hT : TableOk tbl) (sats sats' : List SatRow) (sigs sigs' : List SigRow)
    (P : Pre tbl sats sigs) (hs : sats'.Perm sats) (hg : sigs'.Perm sigs) :
    masks tbl sats' sigs' = masks tbl sats sigs := by
  rw [masks_pre tbl hT sats sigs P, masks_pre tbl hT sats' sigs' (P.perm hs hg)]
  have e1 : satMaskOf sats' = satMaskOf sats := orF_congr_mem _ _ _ _ fun c => (hs.map _).mem_iff
  have e2 : sigMaskOf tbl sigs' = sigMaskOf tbl sigs := orF_congr_mem _ _ _ _ fun c => (hg.map _).mem_iff
  have e3 : sigIdSet tbl sigs' = sigIdSet tbl sigs := sigIdSet_congr_mem tbl sigs' sigs fun c => hg.mem_iff
  have e4 : cellMaskOf tbl sats' sigs' = cellMaskOf tbl sats sigs := by
    unfold cellMaskOf cellPos satIds
    rw [e3, hs.length_eq, sats_sort_perm sats sats' P.sat_distinct hs]
    exact orF_congr_mem _ _ _ _ fun c => (hg.map _).mem_iff
  rw [e1, e2, e3, e4, hs.length_eq]

def maskErrors : List RtcmError :=
  [.invalidSatelliteId, .duplicateSatellite, .invalidSignalId, .satelliteMismatch,
   .invalidSatelliteSignalCount, .duplicateSatelliteSignal]

theorem masks_classify (tbl : SigTable) (hT : TableOk tbl) (sats : List SatRow) (sigs : List SigRow) :
    (sats = [] ∧ sigs = [] ∧ masks tbl sats sigs = .ok none) ∨
    (Pre tbl sats sigs ∧ masks tbl sats sigs = .ok (some (satMaskOf sats, sigMaskOf tbl sigs,
        cellMaskOf tbl sats sigs, (sigIdSet tbl sigs).length * sats.length))) ∨
    (¬ Pre tbl sats sigs ∧ ¬ (sats = [] ∧ sigs = []) ∧ ∃ e ∈ maskErrors, masks tbl sats sigs = .err e) := by
  by_cases hemp : sats = [] ∧ sigs = []
  · obtain ⟨rfl, rfl⟩ := hemp
    exact Or.inl ⟨rfl, rfl, by rw [masks_eq, if_pos ⟨rfl, rfl⟩]⟩
  by_cases hP : Pre tbl sats sigs
  · exact Or.inr (Or.inl ⟨hP, masks_pre tbl hT sats sigs hP⟩)
  refine Or.inr (Or.inr ⟨hP, hemp, ?_⟩)
  -- the encoder's tests in their order: each one fails, which is the error, or adds a fact
  rcases first_bad_or_ok (P := SatsOk) (Q := fun pre r => (1 ≤ r.id ∧ r.id ≤ 64) ∧ r.id ∉ pre.map (·.id))
      ⟨nofun, .nil⟩ (fun pre r hp hq =>
        ⟨List.forall_mem_append.mpr ⟨hp.1, List.forall_mem_singleton.mpr hq.1⟩,
          nodup_map_snoc _ pre r hp.2 hq.2⟩) sats with ⟨pre, r, post, rfl, hpre, hbad⟩ | hs
  · by_cases hr : 1 ≤ r.id ∧ r.id ≤ 64
    · exact ⟨.duplicateSatellite, by decide, masks_sat_err tbl _ sigs _
        (satFold_dup post hpre hr (by_contra fun hm => hbad ⟨hr, hm⟩))⟩
    · exact ⟨.invalidSatelliteId, by decide, masks_sat_err tbl _ sigs _ (satFold_invalid post hpre hr)⟩
  rcases first_bad_or_ok (P := fun l => ∀ g ∈ l, SigGood tbl g) (Q := fun _ g => SigGood tbl g) nofun
      (fun _ _ hp hq => List.forall_mem_append.mpr ⟨hp, List.forall_mem_singleton.mpr hq⟩) sigs
    with ⟨pre, g, post, rfl, hpre, hbad⟩ | hg
  · by_cases hr : 1 ≤ g.sat ∧ g.sat ≤ 64
    · exact ⟨.invalidSignalId, by decide, masks_sig_err tbl _ _ hs (sigFold_unknown hT post _ hpre hr
        (by_contra fun hu => hbad ⟨hr, Option.ne_none_iff_exists'.mp hu⟩))⟩
    · exact ⟨.invalidSatelliteId, by decide, masks_sig_err tbl _ _ hs (sigFold_invalid hT post _ hpre hr)⟩
  refine Classical.byCases (p := SameSats sats sigs) (fun hcov => ?_) fun hmis =>
    ⟨.satelliteMismatch, by decide,
      masks_mismatch tbl hT sats sigs hs hg (Classical.not_and_iff_not_or_not.mp hemp) hmis⟩
  have hsne : sats ≠ [] := by
    rintro rfl
    cases sigs with
    | nil => exact hemp ⟨rfl, rfl⟩
    | cons g _ => obtain ⟨r, hr, _⟩ := hcov.2 g (.head _); cases hr
  have G : RowsOk tbl sats sigs := ⟨hs, hg, hcov, hsne⟩
  refine Classical.byCases (p := sats.length * (sigIdSet tbl sigs).length ≤ 64) (fun hlen => ?_) fun hlen =>
    ⟨.invalidSatelliteSignalCount, by decide, masks_too_many tbl hT sats sigs G (Nat.lt_of_not_le hlen)⟩
  refine Classical.byCases (p := (sigs.map cellKey).Nodup) (fun hnd => ?_) fun hnd =>
    ⟨.duplicateSatelliteSignal, by decide, masks_dup_cell tbl hT sats sigs G hlen hnd⟩
  exact absurd ⟨hs.1, hs.2, fun g h => (hg g h).1, fun g h => (hg g h).2, hnd, hcov.1, hcov.2, hsne, hlen⟩ hP

end Rtcm.MsmLaws
