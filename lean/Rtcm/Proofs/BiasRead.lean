import Rtcm.Proofs.Bits
import Rtcm.Proofs.DecEqns
import Rtcm.Proofs.ResLaws
/-!
`Safe r Q`: the outcome `r` is not a panic, and a success satisfies `Q`. `Bits.parse` under
`Widths` answers `BufferOverflow` or returns the specification value of the field's bits,
whatever the offset and the buffer. On top of that, one traversal of each bias-list reader gives
what its result looks like (the capacity is respected, every entry has a signal of the table and a
bias read from a signed field) together with the absence of panics. No floating-point fact is used
here; finiteness of the biases is added in Proofs/NoPanicDec.
-/
namespace Rtcm.NoPanic
open Rtcm.Bits Rtcm.Text

abbrev Safe {α} (r : Res α) (Q : α → Prop) : Prop := r.Sat Q (fun _ => True) (fun _ => False)

abbrev NP {α} (r : Res α) : Prop := Safe r fun _ => True

theorem parse_total (cfg : Cfg) (it : IT) (data : List Nat) (off len : Nat) (hW : Widths it.w len) :
    parse cfg it data off len = .err .bufferOverflow ∨
    parse cfg it data off len = .ok (readValue it len (fieldValue data off len), off + len) := by
  by_cases h : data.length * 8 < off + len
  · exact Or.inl (Bits.parse_overflow cfg it data off len h)
  · exact Or.inr (Bits.parse_ok cfg it data off len hW.w64 hW.pos hW.le (by omega))

theorem parse_np (cfg : Cfg) (it : IT) (data : List Nat) (off len : Nat) (hW : Widths it.w len) :
    NP (parse cfg it data off len) := by
  rcases parse_total cfg it data off len hW with h | h
  · rw [h]
    trivial
  · rw [h]
    trivial

theorem parseU_np (cfg : Cfg) (w len : Nat) (c : Cur) (hW : Widths w len := by decide) :
    NP (parseU cfg w len c) := by
  rw [parseU_eq_bind]
  exact (parse_np cfg ⟨.u, w⟩ c.data c.off len hW).bind fun _ _ => trivial

open Rtcm.Bias

/-- `parseU` panics only if its width is out of range. The statement takes one proposition `W` that
implies the width is in range, so that a chain of readers shares the single panic specification
`fun _ => ¬W`: a reader of a numeral width meets it for every `W`, and `Bias.decode`, whose
satellite width is the parameter `p.satBits`, takes `W := Widths 8 p.satBits`. -/
theorem parseU_sat {W : Prop} {len : Nat} (hW : W → Widths 8 len) (cfg : Cfg) (c : Cur) :
    (parseU cfg 8 len c).Sat (fun _ => True) (fun _ => True) (fun _ => ¬W) := by
  cases hp : parseU cfg 8 len c with
  | ok _ => trivial
  | err _ => trivial
  | panic w => exact fun h => (parseU_np cfg 8 len c (hW h)).of_panic hp

theorem parseI16_sat {P : String → Prop} (cfg : Cfg) (len : Nat) (c : Cur) (h1 : 1 ≤ len) (h16 : len ≤ 16) :
    (parseI16 cfg len c).Sat (fun (sv, _) => -(2 : Int) ^ (len - 1) ≤ sv ∧ sv < (2 : Int) ^ (len - 1))
      (fun _ => True) P := by
  rw [parseI16_eq_bind]
  rcases parse_total cfg ⟨.i, 16⟩ c.data c.off len ⟨by decide, by decide, h1, h16⟩ with hp | hp <;> rw [hp]
  · trivial
  · have hx := fieldValue_lt c.data c.off len
    have hb := toInt_bounds h1 hx
    simp only [Int.natCast_pow, Int.cast_ofNat_Int] at hb
    show _ ≤ toInt 16 _ ∧ toInt 16 _ < _
    rwa [toInt_readValue_i 16 h1 h16 hx]

/-- an entry as the 1059/1065 reader builds it -/
def Read14 (p : Params) (e : Entry) : Prop :=
  (∃ sid, Sig.toSig p.tbl sid = some (e.band, e.attr)) ∧
    ∃ sv : Int, -8192 ≤ sv ∧ sv < 8192 ∧ e.bias = dequantBias res001 sv

/-- the invariant of the 1059/1065 read loops -/
def Inv (p : Params) (es : List Entry) : Prop := es.length ≤ p.cap ∧ ∀ e ∈ es, Read14 p e

theorem decBiases_sat {W : Prop} (cfg : Cfg) (p : Params) (sat : Nat) :
    ∀ (n : Nat) (acc : List Entry) (c : Cur), Inv p acc →
      (decBiases cfg p sat n acc c).Sat (fun (es, _) => Inv p es) (fun _ => True) (fun _ => ¬W)
  | 0, _, _, hacc => hacc
  | n + 1, acc, c, hacc => by
    rw [decBiases_succ]
    refine (parseU_sat (fun _ => by decide) cfg c).bind fun (sid, c1) _ => ?_
    dsimp only
    cases hsig : Sig.toSig p.tbl sid with
    | none => exact decBiases_sat cfg p sat n acc c1 hacc
    | some ba =>
      refine (parseI16_sat cfg 14 c1 (by decide) (by decide)).bind fun (sv, c2) hsv =>
        .ite (fun _ => trivial) fun hlt => decBiases_sat cfg p sat n _ c2 ⟨?_, fun e he => ?_⟩
      · simp only [List.length_append, List.length_singleton]; omega
      · rcases List.mem_append.mp he with he | he
        · exact hacc.2 e he
        · rw [List.mem_singleton.mp he]
          exact ⟨⟨sid, hsig⟩, sv, hsv.1, hsv.2, rfl⟩

theorem decSats_sat (cfg : Cfg) (p : Params) : ∀ (n : Nat) (acc : List Entry) (c : Cur), Inv p acc →
    (decSats cfg p n acc c).Sat (fun (es, _) => Inv p es) (fun _ => True)
      (fun _ => ¬Widths 8 p.satBits)
  | 0, _, _, hacc => hacc
  | n + 1, acc, c, hacc => by
    rw [decSats_succ]
    exact (parseU_sat id cfg c).bind fun (sat, c1) _ =>
      (parseU_sat (fun _ => by decide) cfg c1).bind fun (num, c2) _ =>
        (decBiases_sat cfg p sat num acc c2 hacc).bind fun (acc', c3) h => decSats_sat cfg p n acc' c3 h

theorem decode_sat (cfg : Cfg) (p : Params) (c : Cur) :
    (decode cfg p c).Sat (fun (es, _) => Inv p es) (fun _ => True)
      (fun _ => ¬Widths 8 p.satBits) := by
  rw [Bias.decode_eq]
  exact (parseU_sat (fun _ => by decide) cfg c).bind fun (n, c1) _ =>
    decSats_sat cfg p n [] c1 ⟨Nat.zero_le _, fun _ h => nomatch h⟩

/-- an entry as the 1230 reader builds it -/
def Read16 (e : Entry) : Prop :=
  e.sat = 0 ∧ ∃ sv : Int, -32768 ≤ sv ∧ sv < 32768 ∧ e.bias = dequantBias res002 sv

theorem dec1230Loop_sat (cfg : Cfg) (mask : Nat) : ∀ (T : List ((Nat × Nat) × Nat)) (c : Cur),
    Safe (dec1230Loop cfg mask T c)
      fun (es, _) => (es.map fun e => (e.band, e.attr)).Sublist (T.map (·.1)) ∧ ∀ e ∈ es, Read16 e
  | [], _ => ⟨List.Sublist.slnil, fun _ h => nomatch h⟩
  | ((b, a), bit) :: T, c => by
    rw [dec1230Loop_cons]
    refine .ite (fun _ => ?_) fun _ => (dec1230Loop_sat cfg mask T c).imp fun _ h => ⟨h.1.cons _, h.2⟩
    refine (parseI16_sat cfg 16 c (by decide) (by decide)).bind fun (sv, c1) hsv =>
      (dec1230Loop_sat cfg mask T c1).bind fun (es, _) hes => ⟨hes.1.cons_cons _, fun e he => ?_⟩
    rcases List.mem_cons.mp he with rfl | he
    · exact ⟨rfl, sv, hsv.1, hsv.2, rfl⟩
    · exact hes.2 e he

theorem decode1230_sat (cfg : Cfg) (c : Cur) :
    Safe (decode1230 cfg c) fun (es, _) =>
      (es.map fun e => (e.band, e.attr)).Sublist (gloTable1230.map (·.1)) ∧ ∀ e ∈ es, Read16 e := by
  rw [decode1230_eq]
  exact (parseU_np cfg 8 4 c).bind fun (mask, c1) _ =>
    dec1230Loop_sat cfg mask _ c1

end Rtcm.NoPanic
