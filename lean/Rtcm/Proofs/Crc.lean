import Rtcm.Model.Crc
/-!
CRC-24Q as long division over GF(2): range of the remainder, its linearity (`crcRem_linear`), and the
conversions the error analysis (Proofs/CrcErr) needs: a bit string as a number, bytes as eight bits
each, bit strings with few set bits.
-/
namespace Rtcm

theorem crcG_lt : crcG < 2 ^ 25 := by decide

theorem crcG_bit24 : crcG.testBit 24 = true := by decide

theorem bit_le_one (c : Bool) : (if c then 1 else 0 : Nat) ≤ 1 := by
  cases c with
  | false => exact Nat.zero_le 1
  | true => exact Nat.le_refl 1

theorem shl_bit_div_two (x : Nat) (c : Bool) : (2 * x + (if c then 1 else 0)) / 2 = x := by
  have := bit_le_one c
  omega

theorem shl_bit_testBit_zero (x : Nat) (c : Bool) :
    (2 * x + (if c then 1 else 0)).testBit 0 = c := by
  rw [Nat.testBit_zero]
  cases c with
  | false => rw [if_neg Bool.false_ne_true, Nat.add_zero, Nat.mul_mod_right]; rfl
  | true => rw [if_pos rfl, Nat.mul_add_mod]; rfl

theorem shl_bit_lt {x k : Nat} (h : x < 2 ^ k) (c : Bool) :
    2 * x + (if c then 1 else 0) < 2 ^ (k + 1) := by
  have := bit_le_one c
  rw [Nat.pow_succ]
  omega

theorem crcStep_lt (s : Nat) (b : Bool) (h : s < 2 ^ 24) : crcStep s b < 2 ^ 24 := by
  unfold crcStep
  have ht : 2 * s + (if b then 1 else 0) < 2 ^ 25 := shl_bit_lt h b
  generalize (2 * s + if b = true then 1 else 0) = t at ht
  have hi : ∀ {x i : Nat}, x < 2 ^ 25 → 25 ≤ i → x.testBit i = false := fun hx hi =>
    Nat.testBit_lt_two_pow (Nat.lt_of_lt_of_le hx (Nat.pow_le_pow_right (by decide) hi))
  simp only
  split
  · next h24 =>
    -- bit 24 is set in both, so the xor clears it; above it both are zero
    apply Nat.lt_pow_two_of_testBit
    intro i hi'
    rw [Nat.testBit_xor]
    by_cases h' : i = 24
    · rw [h', h24, crcG_bit24]; rfl
    · rw [hi ht (by omega), hi crcG_lt (by omega)]; rfl
  · next h24 =>
    apply Nat.lt_pow_two_of_testBit
    intro i hi'
    by_cases h' : i = 24
    · rw [h']; exact Bool.eq_false_iff.mpr h24
    · exact hi ht (by omega)

theorem crcStep_false (s : Nat) :
    crcStep s false = if (2 * s).testBit 24 then 2 * s ^^^ crcG else 2 * s := rfl

theorem crcRem_lt (s : Nat) (bits : List Bool) (h : s < 2 ^ 24) : crcRem s bits < 2 ^ 24 := by
  induction bits generalizing s with
  | nil => exact h
  | cons b bs ih => exact ih _ (crcStep_lt s b h)

theorem crcRemBytes_lt (s : Nat) (d : List UInt8) (h : s < 2 ^ 24) : crcRemBytes s d < 2 ^ 24 := by
  induction d generalizing s with
  | nil => exact h
  | cons b bs ih => exact ih _ (crcRem_lt s _ h)

theorem crc24q_lt (d : List UInt8) : crc24q d < 2 ^ 24 :=
  crcRem_lt _ _ (crcRemBytes_lt 0 d (by decide))

theorem crcRem_cons (s : Nat) (b : Bool) (bs : List Bool) :
    crcRem s (b :: bs) = crcRem (crcStep s b) bs := rfl

theorem crcRem_append (s : Nat) (a b : List Bool) : crcRem s (a ++ b) = crcRem (crcRem s a) b :=
  List.foldl_append

theorem crcRem_replicate_succ' (s n : Nat) :
    crcRem s (List.replicate (n + 1) false) = crcStep (crcRem s (List.replicate n false)) false := by
  rw [List.replicate_succ', crcRem_append]; rfl

theorem crcRemBytes_eq_bits (s : Nat) (d : List UInt8) :
    crcRemBytes s d = crcRem s (bitsOfBytes d) := by
  induction d generalizing s with
  | nil => rfl
  | cons b bs ih =>
    simp only [crcRemBytes, List.foldl_cons, bitsOfBytes, List.flatMap_cons]
    rw [crcRem_append]
    exact ih _

theorem crcRemBytes_append (s : Nat) (a b : List UInt8) :
    crcRemBytes s (a ++ b) = crcRemBytes (crcRemBytes s a) b :=
  List.foldl_append

theorem crc24q_eq_bits (d : List UInt8) :
    crc24q d = crcRem 0 (bitsOfBytes d ++ List.replicate 24 false) := by
  rw [crcRem_append, ← crcRemBytes_eq_bits]; rfl

theorem eqLen_induction {α β : Type}
    {motive : (a : List α) → (b : List β) → a.length = b.length → Prop}
    (nil : motive [] [] rfl)
    (cons : ∀ x xs y ys (h : xs.length = ys.length), motive xs ys h →
      motive (x :: xs) (y :: ys) (congrArg Nat.succ h)) :
    ∀ a b h, motive a b h
  | [], [], _ => nil
  | x :: xs, y :: ys, h => cons x xs y ys (Nat.succ.inj h) (eqLen_induction nil cons xs ys _)

theorem xor_eq_zero_iff (a b : Nat) : a ^^^ b = 0 ↔ a = b :=
  ⟨fun h => by rw [← Nat.xor_zero a, ← h, ← Nat.xor_assoc, Nat.xor_self, Nat.zero_xor],
   fun h => h ▸ Nat.xor_self a⟩

theorem two_mul_add_bit_xor (s s' : Nat) (b b' : Bool) :
    2 * (s ^^^ s') + (if (b != b') then 1 else 0)
      = (2 * s + (if b then 1 else 0)) ^^^ (2 * s' + (if b' then 1 else 0)) := by
  apply Nat.eq_of_testBit_eq
  intro i
  cases i with
  | zero => rw [Nat.testBit_xor, shl_bit_testBit_zero, shl_bit_testBit_zero, shl_bit_testBit_zero]
  | succ i =>
    rw [Nat.testBit_add_one, Nat.testBit_add_one, Nat.xor_div_two, shl_bit_div_two, shl_bit_div_two,
      shl_bit_div_two]

theorem crcStep_linear (s s' : Nat) (b b' : Bool) :
    crcStep (s ^^^ s') (b != b') = crcStep s b ^^^ crcStep s' b' := by
  unfold crcStep
  simp only [two_mul_add_bit_xor, Nat.testBit_xor]
  generalize (2 * s + if b = true then 1 else 0) = t
  generalize (2 * s' + if b' = true then 1 else 0) = t'
  -- the generator is subtracted from neither side, from one, or from both: it commutes with the
  -- xor, or cancels
  cases t.testBit 24 with
  | false =>
    cases t'.testBit 24 with
    | false => rfl
    | true => exact Nat.xor_assoc t t' crcG
  | true =>
    cases t'.testBit 24 with
    | false =>
      show t ^^^ t' ^^^ crcG = t ^^^ crcG ^^^ t'
      ac_rfl
    | true =>
      show t ^^^ t' = t ^^^ crcG ^^^ (t' ^^^ crcG)
      rw [show t ^^^ crcG ^^^ (t' ^^^ crcG) = t ^^^ t' ^^^ (crcG ^^^ crcG) by ac_rfl, Nat.xor_self,
        Nat.xor_zero]

def xorBits (a e : List Bool) : List Bool := List.zipWith (· != ·) a e

theorem length_xorBits (a e : List Bool) (h : a.length = e.length) :
    (xorBits a e).length = a.length := by rw [xorBits, List.length_zipWith, ← h, Nat.min_self]

theorem getD_xorBits (a e : List Bool) (h : a.length = e.length) (p : Nat) :
    (xorBits a e).getD p false = (a.getD p false != e.getD p false) := by
  induction a, e, h using eqLen_induction generalizing p with
  | nil => rfl
  | cons x xs y ys _ ih => cases p with
    | zero => rfl
    | succ p => exact ih p

theorem xorBits_false_left (l : List Bool) : xorBits (List.replicate l.length false) l = l := by
  induction l with
  | nil => rfl
  | cons x xs ih =>
    show (false != x) :: xorBits (List.replicate xs.length false) xs = x :: xs
    rw [ih, Bool.false_bne]

theorem eq_of_count_xorBits (a b : List Bool) (hl : a.length = b.length)
    (h : (xorBits a b).count true = 0) : a = b := by
  induction a, b, hl using eqLen_induction with
  | nil => rfl
  | cons x xs y ys _ ih =>
    rw [xorBits, List.zipWith_cons_cons, List.count_cons] at h
    rw [ih (by rw [xorBits]; omega)]
    by_cases hxy : x = y
    · rw [hxy]
    · rw [if_pos (beq_iff_eq.mpr (bne_iff_ne.mpr hxy))] at h
      omega

theorem crcRem_linear (s s' : Nat) (a e : List Bool) (h : a.length = e.length) :
    crcRem (s ^^^ s') (xorBits a e) = crcRem s a ^^^ crcRem s' e := by
  induction a, e, h using eqLen_induction generalizing s s' with
  | nil => rfl
  | cons x xs y ys _ ih =>
    rw [xorBits, List.zipWith_cons_cons, crcRem_cons, crcRem_cons, crcRem_cons, crcStep_linear]
    exact ih _ _

/-! `shiftIn` is Horner's rule, so it can be read both ways: the result determines state and bits
(`shiftIn_inj`), and a byte is the value of its eight bits. -/

/-- shift `bits` (most significant first) into `s`, without any reduction -/
def shiftIn (s : Nat) (bits : List Bool) : Nat :=
  bits.foldl (fun s b => 2 * s + (if b then 1 else 0)) s

def natOfBits (bits : List Bool) : Nat := shiftIn 0 bits

/-- Pack bits, most significant first, into bytes (an incomplete last group is dropped). -/
def bytesOfBits : List Bool → List UInt8
  | b7 :: b6 :: b5 :: b4 :: b3 :: b2 :: b1 :: b0 :: rest =>
      UInt8.ofNat (natOfBits [b7, b6, b5, b4, b3, b2, b1, b0]) :: bytesOfBits rest
  | _ => []

theorem shiftIn_cons (s : Nat) (b : Bool) (bs : List Bool) :
    shiftIn s (b :: bs) = shiftIn (2 * s + (if b then 1 else 0)) bs := rfl

theorem shiftIn_append (s : Nat) (a b : List Bool) :
    shiftIn s (a ++ b) = shiftIn (shiftIn s a) b := List.foldl_append

theorem shiftIn_eq (s : Nat) (bits : List Bool) :
    shiftIn s bits = 2 ^ bits.length * s + natOfBits bits := by
  induction bits generalizing s with
  | nil => show s = 2 ^ 0 * s + 0; omega
  | cons b bs ih =>
    rw [natOfBits, shiftIn_cons, shiftIn_cons, ih, ih (2 * 0 + _), List.length_cons, Nat.pow_succ,
      Nat.mul_zero, Nat.zero_add, Nat.mul_add, Nat.mul_assoc, Nat.add_assoc]

theorem natOfBits_lt (bits : List Bool) : natOfBits bits < 2 ^ bits.length := by
  induction bits with
  | nil => decide
  | cons b bs ih =>
    rw [natOfBits, shiftIn_cons, shiftIn_eq, List.length_cons, Nat.pow_succ, Nat.mul_zero, Nat.zero_add]
    have := Nat.mul_le_mul_left (2 ^ bs.length) (bit_le_one b)
    omega

theorem shiftIn_inj {s s' : Nat} {a b : List Bool} (hl : a.length = b.length)
    (h : shiftIn s a = shiftIn s' b) : s = s' ∧ a = b := by
  induction a, b, hl using eqLen_induction generalizing s s' with
  | nil => exact ⟨h, rfl⟩
  | cons x xs y ys _ ih =>
    have h' : shiftIn (2 * s + if x then 1 else 0) xs = shiftIn (2 * s' + if y then 1 else 0) ys := h
    obtain ⟨h1, rfl⟩ := ih h'
    have hs : s = s' := by rw [← shl_bit_div_two s x, h1, shl_bit_div_two]
    have hx : x = y := by rw [← shl_bit_testBit_zero s x, h1, shl_bit_testBit_zero]
    rw [hs, hx]
    exact ⟨rfl, rfl⟩

theorem natOfBits_inj {a b : List Bool} (hl : a.length = b.length)
    (h : natOfBits a = natOfBits b) : a = b := (shiftIn_inj hl h).2

theorem le_shiftIn (s : Nat) (bits : List Bool) : s ≤ shiftIn s bits := by
  induction bits generalizing s with
  | nil => exact Nat.le_refl _
  | cons b bs ih =>
    have := ih (2 * s + (if b then 1 else 0))
    show s ≤ shiftIn (2 * s + (if b then 1 else 0)) bs
    omega

theorem shiftIn_pos (s : Nat) (bits : List Bool) (h : true ∈ bits) : 0 < shiftIn s bits := by
  induction bits generalizing s with
  | nil => cases h
  | cons b bs ih =>
    cases b with
    | false => exact ih _ ((List.mem_cons.mp h).resolve_left (by decide))
    | true => exact Nat.lt_of_lt_of_le (Nat.succ_pos _) (le_shiftIn (2 * s + 1) bs)

theorem div_two_pow_succ_bit (n k : Nat) :
    2 * (n / 2 ^ (k + 1)) + (if n.testBit k then 1 else 0) = n / 2 ^ k := by
  rw [Nat.testBit_eq_decide_div_mod_eq, Nat.pow_succ, ← Nat.div_div_eq_div_mul]
  generalize n / 2 ^ k = m
  by_cases h : m % 2 = 1
  · rw [if_pos (decide_eq_true h)]; omega
  · rw [if_neg (by rw [decide_eq_true_eq]; exact h)]; omega

theorem natOfBits_bitsOfByte (b : UInt8) : natOfBits (bitsOfByte b) = b.toNat := by
  have h : (0 : Nat) = b.toNat / 2 ^ (7 + 1) := (Nat.div_eq_of_lt (UInt8.toNat_lt b)).symm
  rw [natOfBits, h, bitsOfByte]
  iterate 8 rw [shiftIn_cons, div_two_pow_succ_bit]
  exact Nat.div_one _

theorem length_bitsOfByte (b : UInt8) : (bitsOfByte b).length = 8 := rfl

theorem shiftIn_bitsOfByte (s : Nat) (b : UInt8) :
    shiftIn s (bitsOfByte b) = 256 * s + b.toNat := by
  rw [shiftIn_eq, natOfBits_bitsOfByte, length_bitsOfByte]

theorem bitsOfByte_ofBits (b7 b6 b5 b4 b3 b2 b1 b0 : Bool) :
    bitsOfByte (UInt8.ofNat (natOfBits [b7, b6, b5, b4, b3, b2, b1, b0]))
      = [b7, b6, b5, b4, b3, b2, b1, b0] := by
  refine natOfBits_inj (by rfl) ?_
  rw [natOfBits_bitsOfByte, UInt8.toNat_ofNat']
  exact Nat.mod_eq_of_lt (natOfBits_lt _)

theorem getD_bitsOfByte (b : UInt8) (k : Nat) (hk : k < 8) :
    (bitsOfByte b).getD k false = b.toNat.testBit (7 - k) :=
  match k, hk with
  | 0, _ | 1, _ | 2, _ | 3, _ | 4, _ | 5, _ | 6, _ | 7, _ => rfl

theorem bitsOfBytes_cons (b : UInt8) (d : List UInt8) :
    bitsOfBytes (b :: d) = bitsOfByte b ++ bitsOfBytes d := List.flatMap_cons

theorem bitsOfBytes_append (a b : List UInt8) :
    bitsOfBytes (a ++ b) = bitsOfBytes a ++ bitsOfBytes b := List.flatMap_append

theorem length_bitsOfBytes (d : List UInt8) : (bitsOfBytes d).length = 8 * d.length := by
  induction d with
  | nil => rfl
  | cons b d ih =>
    rw [bitsOfBytes_cons, List.length_append, ih, length_bitsOfByte, List.length_cons]; omega

/-- so `bitsOfBytes` is injective -/
theorem bytesOfBits_bitsOfBytes (d : List UInt8) : bytesOfBits (bitsOfBytes d) = d := by
  induction d with
  | nil => rfl
  | cons b d ih =>
    show UInt8.ofNat (natOfBits (bitsOfByte b)) :: bytesOfBits (bitsOfBytes d) = _
    rw [ih, natOfBits_bitsOfByte, UInt8.ofNat_toNat]

theorem bitsOfBytes_bytesOfBits : ∀ bs : List Bool, bs.length % 8 = 0 →
    bitsOfBytes (bytesOfBits bs) = bs
  | [], _ => rfl
  | b7 :: b6 :: b5 :: b4 :: b3 :: b2 :: b1 :: b0 :: rest, h => by
    rw [bytesOfBits, bitsOfBytes_cons, bitsOfByte_ofBits,
      bitsOfBytes_bytesOfBits rest (by simp only [List.length_cons] at h; omega)]
    rfl
  | [_], h | [_, _], h | [_, _, _], h | [_, _, _, _], h | [_, _, _, _, _], h
  | [_, _, _, _, _, _], h | [_, _, _, _, _, _, _], h => by simp at h

theorem length_bytesOfBits (bs : List Bool) (h : bs.length % 8 = 0) :
    (bytesOfBits bs).length = bs.length / 8 := by
  have := congrArg List.length (bitsOfBytes_bytesOfBits bs h)
  rw [length_bitsOfBytes] at this
  omega

theorem count_true_zero (l : List Bool) (h : l.count true = 0) :
    l = List.replicate l.length false :=
  List.eq_replicate_iff.mpr ⟨rfl, fun b hb => by
    cases b
    · rfl
    · exact absurd hb (List.count_eq_zero.mp h)⟩

theorem count_true_succ (l : List Bool) (n : Nat) (h : l.count true = n + 1) :
    ∃ k rest, l = List.replicate k false ++ true :: rest ∧ rest.count true = n := by
  induction l with
  | nil => rw [List.count_nil] at h; omega
  | cons b t ih =>
    cases b with
    | false =>
      rw [List.count_cons_of_ne (by decide)] at h
      obtain ⟨k, rest, ht, hc⟩ := ih h
      exact ⟨k + 1, rest, by rw [ht]; rfl, hc⟩
    | true =>
      rw [List.count_cons_self] at h
      exact ⟨0, t, rfl, Nat.succ.inj h⟩

theorem eq_replicate_false (l : List Bool) (h : ∀ p, p < l.length → l.getD p false = false) :
    l = List.replicate l.length false := by
  apply count_true_zero
  rw [List.count_eq_zero]
  intro hm
  obtain ⟨i, hi, hv⟩ := List.mem_iff_getElem.mp hm
  have := h i hi
  rw [List.getD_eq_getElem?_getD, List.getElem?_eq_getElem hi] at this
  rw [Option.getD_some, hv] at this
  cases this

end Rtcm
