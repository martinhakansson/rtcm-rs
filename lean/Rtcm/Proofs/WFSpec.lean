import Rtcm.Proofs.WFFrag
import Rtcm.Model.Size
import Rtcm.Proofs.BitPrim
/-!
`WF.WFFrag`, `WF.WFFields`, `WF.wfSpecs` and `WF.wfCount` are Boolean conjunctions. Each lemma here
states one case as a proposition, so that a proof about a layout names the fact it uses instead of
its position among the `&&`. Three cases need no lemma because they hold by definition: a hypothesis
`WFFrag (.df s) = true` is a proof of `DfWf.wf s = true`, `WFFrag (.seq fs) = true` of
`WFFields fs = true`, and `WFFrag (.grid16 e) = true` of `WFFrag e = true`.
-/
namespace Rtcm.WF
open Rtcm.Schema
variable {s l : DfSpec} {cap lenBits : Nat} {f1 f2 rest : Fields} {e f : Frag} {tbl : SigTable}
  {p : String × DfSpec} {fs sat sig : List (String × DfSpec)} {nm : String}

theorem wfSpecs_iff : wfSpecs fs = true ↔ ∀ p ∈ fs, DfWf.wf p.2 = true := List.all_eq_true

theorem wfSpecs_cons : wfSpecs (p :: fs) = true ↔ DfWf.wf p.2 = true ∧ wfSpecs fs = true := by
  simp only [wfSpecs, List.all_cons, Bool.and_eq_true]

/-- the count field of a `msg_len_middle!`: it decodes to exactly one integer token -/
structure CountField (l : DfSpec) : Prop where
  wf : DfWf.wf l = true
  int : l.dt.isFloat = false
  res : l.res = none
  bias : l.bias = none
  inv : l.inv = none

theorem wfCount_spec : wfCount l = true ↔ CountField l := by
  simp only [wfCount, Bool.and_eq_true, Bool.not_eq_true', Option.isNone_iff_eq_none]
  exact ⟨fun ⟨⟨⟨⟨a, b⟩, c⟩, d⟩, e⟩ => ⟨a, b, c, d, e⟩, fun ⟨a, b, c, d, e⟩ => ⟨⟨⟨⟨a, b⟩, c⟩, d⟩, e⟩⟩

theorem wfFrag_str : WFFrag (.str cap lenBits) = true ↔ Bits.Widths 8 lenBits := by
  simp only [WFFrag, Bool.and_eq_true, decide_eq_true_eq]
  exact ⟨fun ⟨h1, h8⟩ => ⟨by decide, by decide, h1, h8⟩, fun h => ⟨h.pos, h.le⟩⟩

theorem wfFrag_lenMiddle : WFFrag (.lenMiddle f1 l f2 e cap) = true ↔
    WFFields f1 = true ∧ wfCount l = true ∧ WFFields f2 = true ∧ WFFrag e = true := by
  simp only [WFFrag, Bool.and_eq_true, and_assoc]

theorem wfFrag_vecWithLen : WFFrag (.vecWithLen e cap lenBits) = true ↔
    Bits.Widths 16 lenBits ∧ WFFrag e = true := by
  simp only [WFFrag, Bool.and_eq_true, decide_eq_true_eq]
  exact ⟨fun ⟨⟨h1, h16⟩, he⟩ => ⟨⟨by decide, by decide, h1, h16⟩, he⟩, fun ⟨h, he⟩ => ⟨⟨h.pos, h.le⟩, he⟩⟩

theorem wfFrag_msm : WFFrag (.msm tbl sat sig) = true ↔
    C18.tableOk tbl = true ∧ wfSpecs sat = true ∧ wfSpecs sig = true := by
  simp only [WFFrag, Bool.and_eq_true, and_assoc]

theorem wfFields_cons : WFFields (.cons nm f rest) = true ↔ WFFrag f = true ∧ WFFields rest = true :=
  Bool.and_eq_true_iff

end Rtcm.WF

namespace Rtcm.NoPanic
open Rtcm.Schema Rtcm.WF Rtcm.Bits

theorem widths_of_wf {s : DfSpec} (h : DfWf.wf s = true) : Widths s.it.w s.len := by
  unfold DfWf.wf DfWf.wfBasic at h
  simp only [Bool.and_eq_true, Bool.or_eq_true, decide_eq_true_eq, beq_iff_eq] at h
  constructor <;> omega

theorem wf_of_wfCount {l : DfSpec} (h : wfCount l = true) : DfWf.wf l = true := (wfCount_spec.mp h).wf

def WidthsAll (fs : List (String × DfSpec)) : Prop := ∀ p ∈ fs, Widths p.2.it.w p.2.len

theorem widthsAll_of_wfSpecs {fs : List (String × DfSpec)} (h : wfSpecs fs = true) : WidthsAll fs :=
  fun p hp => widths_of_wf (wfSpecs_iff.mp h p hp)

end Rtcm.NoPanic

namespace Rtcm.Interp
open Rtcm.Schema Rtcm.Bits

theorem widths_1059 (cap : Nat) (tbl : SigTable) : Widths 8 (params1059 cap tbl).satBits :=
  (by decide : Widths 8 6)

theorem widths_1065 (cap : Nat) (tbl : SigTable) : Widths 8 (params1065 cap tbl).satBits :=
  (by decide : Widths 8 5)

end Rtcm.Interp

namespace Rtcm.Size
open Rtcm.Schema
variable {l : DfSpec} {cap lenBits : Nat} {f1 f2 rest : Fields} {e f : Frag} {nm : String}

structure CountFits (l : DfSpec) (cap : Nat) : Prop where
  cap : cap < 2 ^ l.len
  res : l.res = none
  bias : l.bias = none
  inv : l.inv = none

theorem countsFit_str : countsFit (.str cap lenBits) = true ↔ cap < 2 ^ lenBits ∧ lenBits ≤ 8 := by
  simp only [countsFit, Bool.and_eq_true, decide_eq_true_eq]

theorem countsFit_vecWithLen : countsFit (.vecWithLen e cap lenBits) = true ↔
    cap < 2 ^ lenBits ∧ lenBits ≤ 16 ∧ countsFit e = true := by
  simp only [countsFit, Bool.and_eq_true, decide_eq_true_eq, and_assoc]

theorem countsFit_lenMiddle : countsFit (.lenMiddle f1 l f2 e cap) = true ↔
    CountFits l cap ∧ countsFitFields f1 = true ∧ countsFitFields f2 = true ∧ countsFit e = true := by
  simp only [countsFit, Bool.and_eq_true, decide_eq_true_eq, Option.isNone_iff_eq_none, and_assoc]
  exact ⟨fun ⟨a, b, c, d, r⟩ => ⟨⟨a, b, c, d⟩, r⟩, fun ⟨⟨a, b, c, d⟩, r⟩ => ⟨a, b, c, d, r⟩⟩

theorem countsFitFields_cons : countsFitFields (.cons nm f rest) = true ↔
    countsFit f = true ∧ countsFitFields rest = true := Bool.and_eq_true_iff

end Rtcm.Size

namespace Rtcm.C15
open Rtcm.Schema Rtcm.Bits

mutual
/-- Together with `Size.countsFit`, the hypotheses on count fields of `count_on_wire`,
`count_on_wire_str`, `count_on_wire_lenMiddle`. Only the unsigned carrier is new: the width facts and
the integer `dt` of a `msg_len_middle!` count also follow from `WF.wfCount` (the layout check of C02
and C09). They are repeated so that C15 stands on its own two table checks. -/
def countFieldsPlain : Frag → Bool
  | .df _ | .text1029 | .bias1059 _ _ | .bias1065 _ _ | .bias1230 | .msm _ _ _ => true
  | .str _ lenBits => decide (1 ≤ lenBits)
  | .seq fs => countFieldsPlainFields fs
  | .lenMiddle f1 l f2 e _ =>
    decide (l.it.kind = .u) && decide (8 ≤ l.it.w) && decide (l.it.w ≤ 64) && decide (1 ≤ l.len) &&
      decide (l.len ≤ l.it.w) && !l.dt.isFloat &&
      countFieldsPlainFields f1 && countFieldsPlainFields f2 && countFieldsPlain e
  | .vecWithLen e _ lenBits => decide (1 ≤ lenBits) && countFieldsPlain e
  | .grid16 e => countFieldsPlain e
def countFieldsPlainFields : Fields → Bool
  | .nil => true
  | .cons _ f rest => countFieldsPlain f && countFieldsPlainFields rest
end

variable {l : DfSpec} {cap lenBits : Nat} {f1 f2 rest : Fields} {e f : Frag} {nm : String}

structure CountPlain (l : DfSpec) : Prop where
  unsigned : l.it.kind = .u
  widths : Widths l.it.w l.len
  int : l.dt.isFloat = false

theorem countFieldsPlain_vecWithLen : countFieldsPlain (.vecWithLen e cap lenBits) = true ↔
    1 ≤ lenBits ∧ countFieldsPlain e = true := by
  simp only [countFieldsPlain, Bool.and_eq_true, decide_eq_true_eq]

theorem countFieldsPlain_lenMiddle : countFieldsPlain (.lenMiddle f1 l f2 e cap) = true ↔
    CountPlain l ∧ countFieldsPlainFields f1 = true ∧ countFieldsPlainFields f2 = true ∧
      countFieldsPlain e = true := by
  simp only [countFieldsPlain, Bool.and_eq_true, decide_eq_true_eq, Bool.not_eq_true', and_assoc]
  exact ⟨fun ⟨a, b, c, d, e, g, r⟩ => ⟨⟨a, ⟨b, c, d, e⟩, g⟩, r⟩,
    fun ⟨⟨a, ⟨b, c, d, e⟩, g⟩, r⟩ => ⟨a, b, c, d, e, g, r⟩⟩

theorem countFieldsPlainFields_cons : countFieldsPlainFields (.cons nm f rest) = true ↔
    countFieldsPlain f = true ∧ countFieldsPlainFields rest = true := Bool.and_eq_true_iff

end Rtcm.C15
