import Rtcm.Proofs.DfFloat
/-!
`quantBias` / `dequantBias` (the `bias_m` of 1059 / 1065 / 1230) are not `df!` rows, but their
arithmetic is that of the synthetic row `spec len m`, up to the way the rounding half is added
(`half_step`). The round trip on the grid, the finiteness of a decoded bias and C11's nearest-value
theorems for the bias fields are then instances of the `df!` theorems.
-/
namespace Rtcm.BiasFloat
open Rtcm.Bits Rtcm.Schema Rtcm.SoftFloat Rtcm.Bias Rtcm.Df

def spec (len : Nat) (m : Nat) : DfSpec :=
  { id := "bias", dt := .f32, it := ⟨.i, 16⟩, len := len, res := some (.dec m (-2)), bias := none,
    round := some true, inv := none, cap := none }

theorem wf14 : DfWf.wf (spec 14 1) = true := by decide +kernel
theorem wf16 : DfWf.wf (spec 16 2) = true := by decide +kernel

theorem half_round : roundMag binary32 (1 / 2) = some (1 / 2) := by decide +kernel

theorem evalF_001 : evalF binary32 (.dec 1 (-2)) = res001 := by decide +kernel
theorem evalF_002 : evalF binary32 (.dec 2 (-2)) = res002 := by decide +kernel
theorem round_half_pos : SoftFloat.round binary32 (1 / 2) = .fin false (1 / 2) := by decide +kernel
theorem round_half_neg : SoftFloat.round binary32 (-(1 / 2)) = .fin true (1 / 2) := by decide +kernel
theorem trunc_half_pos : truncRat (F.fin false (1 / 2)).toRat = 0 := by decide +kernel
theorem trunc_half_neg : truncRat (F.fin true (1 / 2)).toRat = 0 := by decide +kernel

/-- the two ways of adding the rounding half (`ge`/`add ±½` in `df!`, `gt`/`add`/`sub` in the bias code)
give the same integer -/
theorem half_step (b : F) (lo hi : Int) :
    toIntSat (add binary32 b (if ge b zero then .fin false (1 / 2) else .fin true (1 / 2))) lo hi =
    toIntSat (if gt b zero then add binary32 b (.fin false (1 / 2))
      else sub binary32 b (.fin false (1 / 2))) lo hi := by
  cases b with
  | nan => rfl
  | inf s => cases s <;> rfl
  | fin s x =>
    have hz' : (F.fin false 0).toRat = 0 := rfl
    have hge : ge (.fin s x) zero = decide ((0 : ℚ) ≤ (F.fin s x).toRat) := by
      simp only [ge, zero, hz']
    have hgt : gt (.fin s x) zero = decide ((0 : ℚ) < (F.fin s x).toRat) := by
      simp only [gt, zero, hz']
    by_cases h : (F.fin s x).toRat = 0
    · -- exactly zero: `df!` adds `+½`, the bias code subtracts `½`; both results truncate to 0
      have h1 : ge (.fin s x) zero = true := by rw [hge, h]; decide
      have h2 : gt (.fin s x) zero = false := by rw [hgt, h]; decide
      simp only [h1, h2, if_true, Bool.false_eq_true, if_false, sub, neg, Bool.not_false]
      have e : ∀ t, add binary32 (.fin s x) (.fin t (1 / 2)) = .fin t (1 / 2) := by
        intro t
        simp only [add, roundSum, h]
        cases t
        · rw [show (0 : ℚ) + (F.fin false (1 / 2)).toRat = 1 / 2 from zero_add _, if_neg (by norm_num)]
          exact round_half_pos
        · rw [show (0 : ℚ) + (F.fin true (1 / 2)).toRat = -(1 / 2) from zero_add _, if_neg (by norm_num)]
          exact round_half_neg
      rw [e false, e true]
      simp only [toIntSat, trunc_half_pos, trunc_half_neg]
    · -- otherwise `>=` and `>` agree, and subtracting `½` is adding `-½`
      have : ge (.fin s x) zero = gt (.fin s x) zero := by
        rw [hge, hgt, decide_eq_decide]
        exact ⟨fun h' => lt_of_le_of_ne h' (Ne.symm h), le_of_lt⟩
      rw [this]
      cases gt (.fin s x) zero <;> rfl

theorem quantBias_eq (len m : Nat) (res : F) (hres : evalF binary32 (.dec m (-2)) = res) (bits : Nat) :
    Df.quantise (spec len m) (.flt bits) = .ok (quantBias res bits) := by
  rw [Df.quantise_of_float (s := spec len m) rfl]
  unfold quantBias
  simp only [spec, Df.fmtOf, Bias.f32, hres, Res.bind_ok, if_true]
  rw [half_step]
  rfl

theorem dequantBias_eq (cfg : Cfg) (len m : Nat) (res : F)
    (hres : evalF binary32 (.dec m (-2)) = res) (sv : Int) :
    Df.dequantise cfg (spec len m) sv = .ok (.flt (dequantBias res sv)) := by
  rw [Df.dequantise_of_float (s := spec len m) rfl]
  unfold dequantBias
  simp only [spec, Df.fmtOf, Bias.f32, hres]

theorem quant_dequant (len m : Nat) (res : F) (hres : evalF binary32 (.dec m (-2)) = res)
    (hw : DfWf.wf (spec len m) = true) (sv : Int) (hr : DfWf.InRange (spec len m) sv) :
    quantBias res (dequantBias res sv) = ofInt 16 sv := by
  obtain ⟨t, h1, h2⟩ := DfLaws.value_roundtrip ⟨true⟩ (spec len m) sv hw hr
  rw [dequantBias_eq ⟨true⟩ len m res hres] at h1
  cases h1
  rw [quantBias_eq len m res hres] at h2
  exact Res.ok.inj h2

theorem dequantBias_finite (len m : Nat) (res : F) (hres : evalF binary32 (.dec m (-2)) = res)
    (hw : DfWf.wf (spec len m) = true) (sv : Int) (hr : DfWf.InRange (spec len m) sv) :
    (ofBits binary32 (dequantBias res sv)).isFinite = true := by
  obtain ⟨b, h1, -, h2, -⟩ := DfLaws.flt_roundtrip ⟨true⟩ (spec len m) sv rfl hw hr
  rw [dequantBias_eq ⟨true⟩ len m res hres] at h1
  cases h1
  exact h2

/-- the 14-bit field of 1059 / 1065 -/
theorem quant_dequant_14 (sv : Int) (h : -8192 ≤ sv ∧ sv ≤ 8191) :
    quantBias res001 (dequantBias res001 sv) = ofInt 16 sv :=
  quant_dequant 14 1 _ evalF_001 wf14 sv h

/-- the 16-bit field of 1230 -/
theorem quant_dequant_16 (sv : Int) (h : -32768 ≤ sv ∧ sv ≤ 32767) :
    quantBias res002 (dequantBias res002 sv) = ofInt 16 sv :=
  quant_dequant 16 2 _ evalF_002 wf16 sv h

end Rtcm.BiasFloat
