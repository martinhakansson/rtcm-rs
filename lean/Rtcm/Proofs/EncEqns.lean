import Rtcm.Model.Interp
import Rtcm.Proofs.ResLaws
/-!
The bind form of each encoder, by `rfl` as for the decoders (Proofs/DecEqns). Two places are not of
that kind. `Df.encode` looks at the tokens and quantises inside one nested `match`; `Df.pattern`
separates that stage (tokens to carrier pattern) from the one `put` that follows. The leaf layouts
`.str`, `.text1029`, `.msm` of `encFrag` inspect the tokens before they call their encoder;
`encFrag_*_cases` does that analysis once per layout: a `tokens…` panic, or the shape of the tokens
together with the equation for `encFrag`.
-/
namespace Rtcm
open Schema Text

-- the matchers of the model are unfolded by the defeq check only with smart unfolding off; then both
-- sides of an equation proved by `rfl` below are the same `casesOn` term
set_option smartUnfolding false

namespace Text

theorem putU_eq_bind (cfg : Cfg) (w v len : Nat) (c : Cur) :
    putU cfg w v len c =
      Bits.put cfg ⟨.u, w⟩ c.data c.off v len >>= fun (d, o) => .ok { data := d, off := o } :=
  rfl

theorem putBytes_cons (cfg : Cfg) (b : Nat) (bs : List Nat) (c : Cur) :
    putBytes cfg (b :: bs) c = putU cfg 8 b 8 c >>= putBytes cfg bs := rfl

theorem strEncode_eq (cfg : Cfg) (lenBits : Nat) (bytes : List Nat) (c : Cur) :
    strEncode cfg lenBits bytes c = putU cfg 8 (bytes.length % 256) lenBits c >>= putBytes cfg bytes := rfl

theorem text1029Encode_eq (cfg : Cfg) (bytes : List Nat) (c : Cur) :
    text1029Encode cfg bytes c =
      if bytes.length > 255 ∨ charCount bytes > 127 then .err .bufferOverflow
      else putU cfg 8 (charCount bytes) 7 c >>= fun c1 =>
        putU cfg 8 bytes.length 8 c1 >>= putBytes cfg bytes :=
  rfl

end Text

namespace Df
open Rtcm.Bits

/-- the carrier pattern `encode` writes for the field's tokens, and the tokens left over -/
def pattern (s : DfSpec) (toks : List Tok) : Res (Nat × List Tok) :=
  match s.inv with
  | some inv =>
    match toks with
    | .absent :: rest => .ok (ofInt s.it.w inv, rest)
    | .present :: v :: rest => quantise s v >>= fun p => .ok (p, rest)
    | _ => .panic "tokens: optional expected"
  | none =>
    match toks with
    | v :: rest => quantise s v >>= fun p => .ok (p, rest)
    | [] => .panic "tokens: value expected"

theorem encode_eq (cfg : Cfg) (s : DfSpec) (toks : List Tok) (c : Cur) :
    encode cfg s toks c =
      pattern s toks >>= fun (p, rest) =>
        put cfg s.it c.data c.off p s.len >>= fun (d, o) => .ok ({ data := d, off := o }, rest) := by
  unfold encode pattern
  rcases s.inv with _ | inv <;> dsimp only
  · cases toks with
    | nil => rfl
    | cons v rest => dsimp only; cases quantise s v <;> rfl
  · split
    · rfl
    · next v rest => dsimp only; cases quantise s v <;> rfl
    · next h1 h2 =>
      split
      · exact (h1 _ rfl).elim
      · exact (h2 _ _ rfl).elim
      · rfl

section
open Rtcm.SoftFloat

theorem quantise_of_float {s : DfSpec} (hf : s.dt.isFloat = true) (v : Tok) :
    quantise s v =
      match v with
      | .flt bits =>
        (match s.bias with
          | some b =>
            if ge (ofBits (fmtOf s.dt) bits) (evalF (fmtOf s.dt) b) then
              .ok (sub (fmtOf s.dt) (ofBits (fmtOf s.dt) bits) (evalF (fmtOf s.dt) b))
            else .err .outOfRange
          | none => .ok (ofBits (fmtOf s.dt) bits)) >>= fun x =>
        let x := match s.res with
          | some r => div (fmtOf s.dt) x (evalF (fmtOf s.dt) r)
          | none => x
        let x := if s.round = some true then
            add (fmtOf s.dt) x (if ge x zero then .fin false (1/2) else .fin true (1/2)) else x
        .ok (Bits.ofInt s.it.w (toIntSat x (carrierRange s.it).1 (carrierRange s.it).2))
      | _ => .panic "tokens: float expected" := by
  unfold quantise
  rw [if_pos hf]
  rfl

theorem quantise_of_int {s : DfSpec} (hf : s.dt.isFloat = false) (v : Tok) :
    quantise s v =
      match v with
      | .int z =>
        (match s.bias with
          | some b =>
            if z ≥ evalI b then
              if (dtRange s.dt).1 ≤ z - evalI b ∧ z - evalI b ≤ (dtRange s.dt).2 then .ok (z - evalI b)
              else .err .outOfRange
            else .err .outOfRange
          | none => .ok z) >>= fun z =>
        .ok (Bits.ofInt s.it.w (match s.res with | some r => Int.tdiv z (evalI r) | none => z))
      | _ => .panic "tokens: integer expected" := by
  unfold quantise
  rw [if_neg (by rw [hf]; decide)]
  rfl

end

def IsVal (t : Tok) : Prop := (∃ z, t = .int z) ∨ ∃ b, t = .flt b

theorem takeDf_absent {s : DfSpec} {inv : Int} (hi : s.inv = some inv) (rest : List Tok) :
    Interp.takeDf s (.absent :: rest) = some ([.absent], rest) := by
  rw [Interp.takeDf, hi]
  rfl

theorem takeDf_present {s : DfSpec} {inv : Int} (hi : s.inv = some inv) (v : Tok) (rest : List Tok) :
    Interp.takeDf s (.present :: v :: rest) = some ([.present, v], rest) := by
  rw [Interp.takeDf, hi]
  rfl

theorem takeDf_val {s : DfSpec} (hi : s.inv = none) {v : Tok} (hv : IsVal v) (rest : List Tok) :
    Interp.takeDf s (v :: rest) = some ([v], rest) := by
  rcases hv with ⟨z, rfl⟩ | ⟨b, rfl⟩
  · simp only [Interp.takeDf, hi]
    rfl
  · simp only [Interp.takeDf, hi]
    rfl

end Df

namespace Msm

theorem encColumn_cons (cfg : Cfg) (s : DfSpec) (j : Nat) (row : List (List Tok)) (rows : List (List (List Tok)))
    (c : Cur) :
    encColumn cfg s j (row :: rows) c =
      Df.encode cfg s (row.getD j []) c >>= fun (c', _) => encColumn cfg s j rows c' := rfl

theorem encColumns_cons (cfg : Cfg) (rows : List (List (List Tok))) (j : Nat) (nm : String) (s : DfSpec)
    (fs : List (String × DfSpec)) (c : Cur) :
    encColumns cfg rows j ((nm, s) :: fs) c =
      encColumn cfg s j rows c >>= encColumns cfg rows (j + 1) fs := rfl

theorem encode_eq (cfg : Cfg) (tbl : SigTable) (satFields sigFields : List (String × DfSpec))
    (sats : List SatRow) (sigs : List SigRow) (c : Cur) :
    encode cfg tbl satFields sigFields sats sigs c =
      masks tbl sats sigs >>= fun
        | none => putU cfg 64 0 64 c >>= putU cfg 32 0 32
        | some (satMask, sigMask, cellMask, cellLen) =>
          putU cfg 64 satMask 64 c >>= fun c1 => putU cfg 32 sigMask 32 c1 >>= fun c2 =>
          putU cfg 64 cellMask cellLen c2 >>= fun c3 =>
          encColumns cfg ((Sig.sortBy (fun a b : SatRow => a.id ≤ b.id) sats).map (·.fields)) 0 satFields c3 >>=
          encColumns cfg ((Sig.sortBy (sigLe tbl) sigs).map (·.fields)) 0 sigFields := rfl

end Msm

namespace Interp

theorem encRepeat_succ (f : Enc) (n : Nat) (ts : List Tok) (c : Cur) :
    encRepeat f (n + 1) ts c = f ts c >>= fun (c', ts') => encRepeat f n ts' c' := rfl

theorem encFields_cons (cfg : Cfg) (glo : SigTable) (nm : String) (f : Frag) (rest : Fields) (ts : List Tok)
    (c : Cur) :
    encFields cfg glo (.cons nm f rest) ts c =
      encFrag cfg glo f ts c >>= fun (c', ts') => encFields cfg glo rest ts' c' := rfl

theorem encFrag_lenMiddle (cfg : Cfg) (glo : SigTable) (f1 f2 : Fields) (lenDf : DfSpec) (elem : Frag) (cap : Nat)
    (ts : List Tok) (c : Cur) :
    encFrag cfg glo (.lenMiddle f1 lenDf f2 elem cap) ts c =
      encFields cfg glo f1 ts c >>= fun (c1, ts1) =>
        match ts1 with
        | .count n :: ts2 =>
          if n > cap then .panic "tokens: list longer than capacity"
          else Df.encode cfg lenDf [.int n] c1 >>= fun (c2, _) =>
            encFields cfg glo f2 ts2 c2 >>= fun (c3, ts3) => encRepeat (encFrag cfg glo elem) n ts3 c3
        | _ => .panic "tokens: count expected" := rfl

theorem encFrag_vecWithLen (cfg : Cfg) (glo : SigTable) (elem : Frag) (cap lenBits : Nat) (ts : List Tok) (c : Cur) :
    encFrag cfg glo (.vecWithLen elem cap lenBits) ts c =
      match ts with
      | .count n :: rest =>
        if n > cap then .panic "tokens: list longer than capacity"
        else Bits.put cfg ⟨.u, 16⟩ c.data c.off (n % 65536) lenBits >>= fun (d, o) =>
          encRepeat (encFrag cfg glo elem) n rest { data := d, off := o }
      | _ => .panic "tokens: count expected" := rfl

open NoPanic

theorem encFrag_str_cases (cfg : Cfg) (glo : SigTable) (cap lenBits : Nat) (ts : List Tok) (c : Cur) :
    (∃ w, TokPanic w ∧ encFrag cfg glo (.str cap lenBits) ts c = .panic w) ∨
    ∃ b rest, ts = .bytes b :: rest ∧ ¬ b.length > cap ∧
      encFrag cfg glo (.str cap lenBits) ts c =
        strEncode cfg lenBits (b.map pushNorm) c >>= fun c' => .ok (c', rest) := by
  unfold encFrag
  split
  · next b rest =>
    split
    · exact .inl ⟨_, tokPanic_strCap, rfl⟩
    · next hc => exact .inr ⟨b, rest, rfl, hc, rfl⟩
  · exact .inl ⟨_, tokPanic_bytes, rfl⟩

theorem encFrag_text1029_cases (cfg : Cfg) (glo : SigTable) (ts : List Tok) (c : Cur) :
    (∃ w, TokPanic w ∧ encFrag cfg glo .text1029 ts c = .panic w) ∨
    ∃ b rest, ts = .bytes b :: rest ∧ ¬ (b.length > 255 ∨ !validUtf8 b) ∧
      encFrag cfg glo .text1029 ts c = text1029Encode cfg b c >>= fun c' => .ok (c', rest) := by
  unfold encFrag
  split
  · next b rest =>
    split
    · exact .inl ⟨_, tokPanic_text, rfl⟩
    · next hc => exact .inr ⟨b, rest, rfl, hc, rfl⟩
  · exact .inl ⟨_, tokPanic_bytes, rfl⟩

theorem encFrag_msm_cases (cfg : Cfg) (glo tbl : SigTable) (sf gf : List (String × DfSpec)) (ts : List Tok)
    (c : Cur) :
    (∃ w, TokPanic w ∧ encFrag cfg glo (.msm tbl sf gf) ts c = .panic w) ∨
    ∃ ns ts1 sats ng ts2 sigs rest, ts = .count ns :: ts1 ∧ ¬ ns > 64 ∧
      takeSats sf ns ts1 = some (sats, .count ng :: ts2) ∧ ¬ ng > 64 ∧
      takeSigs gf ng ts2 = some (sigs, rest) ∧
      encFrag cfg glo (.msm tbl sf gf) ts c =
        Msm.encode cfg tbl sf gf sats sigs c >>= fun c' => .ok (c', rest) := by
  unfold encFrag
  split
  · next ns ts1 =>
    split
    · exact .inl ⟨_, tokPanic_cap, rfl⟩
    · next hns =>
      split
      · next sats ng ts2 e1 =>
        split
        · exact .inl ⟨_, tokPanic_cap, rfl⟩
        · next hng =>
          split
          · next sigs rest e2 => exact .inr ⟨ns, ts1, sats, ng, ts2, sigs, rest, rfl, hns, e1, hng, e2, rfl⟩
          · exact .inl ⟨_, tokPanic_sigs, rfl⟩
      · exact .inl ⟨_, tokPanic_sats, rfl⟩
  · exact .inl ⟨_, tokPanic_count, rfl⟩

end Interp
end Rtcm
