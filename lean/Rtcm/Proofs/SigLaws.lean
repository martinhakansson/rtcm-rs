import Rtcm.Props.C18
import Mathlib.Data.List.Sort
/-!
`Sig.insertBy` / `Sig.sortBy` are `List.orderedInsert` / `List.insertionSort` for the relation
`le · · = true`; everything about them is taken from there. On a table that passes `C18.tableOk`,
`toId` and `toSig` are inverse to each other.
-/
namespace Rtcm.Sig
open Rtcm.Schema
variable {α : Type} (le : α → α → Bool)

theorem insertBy_eq (x : α) (l : List α) :
    insertBy le x l = l.orderedInsert (fun a b => le a b = true) x := by
  induction l with
  | nil => rfl
  | cons y ys ih => simp only [insertBy, List.orderedInsert_cons, ih]

theorem sortBy_eq (l : List α) : sortBy le l = l.insertionSort (fun a b => le a b = true) := by
  induction l with
  | nil => rfl
  | cons x xs ih => rw [sortBy, insertBy_eq, ih, List.insertionSort_cons]

theorem sortBy_perm (l : List α) : (sortBy le l).Perm l := by
  rw [sortBy_eq]; exact List.perm_insertionSort _ l

theorem mem_sortBy {l : List α} {x : α} : x ∈ sortBy le l ↔ x ∈ l := (sortBy_perm le l).mem_iff

theorem sortBy_of_sorted {l : List α} (h : l.Pairwise (fun a b => le a b = true)) : sortBy le l = l := by
  rw [sortBy_eq]; exact h.insertionSort_eq

variable {le}

theorem sortBy_sorted (total : ∀ a b, le a b = true ∨ le b a = true)
    (trans : ∀ a b c, le a b = true → le b c = true → le a c = true) (l : List α) :
    (sortBy le l).Pairwise (fun a b => le a b = true) := by
  have : Std.Total (fun a b => le a b = true) := ⟨total⟩
  have : IsTrans α (fun a b => le a b = true) := ⟨trans⟩
  rw [sortBy_eq]; exact List.pairwise_insertionSort _ l

theorem sortBy_sorted_ne (total : ∀ a b, le a b = true ∨ le b a = true)
    (trans : ∀ a b c, le a b = true → le b c = true → le a c = true) {β} {f : α → β} {l : List α}
    (hnd : (l.map f).Nodup) : (sortBy le l).Pairwise fun a b => le a b = true ∧ f a ≠ f b :=
  (sortBy_sorted total trans l).and (List.pairwise_map.mp (((sortBy_perm le l).map f).nodup_iff.mpr hnd))

theorem sortBy_unique (total : ∀ a b, le a b = true ∨ le b a = true)
    (trans : ∀ a b c, le a b = true → le b c = true → le a c = true) {l s : List α} (hp : s.Perm l)
    (hs : s.Pairwise (fun a b => le a b = true))
    (anti : ∀ a ∈ l, ∀ b ∈ l, le a b = true → le b a = true → a = b) : sortBy le l = s :=
  ((sortBy_perm le l).trans hp.symm).eq_of_pairwise
    (fun a b ha _ => anti a ((mem_sortBy le).mp ha) b (hp.mem_iff.mp ‹_›)) (sortBy_sorted total trans l) hs

/-- `C18.tableOk` as propositions -/
structure TableOk (tbl : SigTable) : Prop where
  ids_nodup : (tbl.map (·.1)).Nodup
  sigs_nodup : (tbl.map (·.2)).Nodup
  range : ∀ band attr i, toId tbl band attr = some i → 2 ≤ i ∧ i ≤ 32

theorem tableOk_of_bool (tbl : SigTable) (h : C18.tableOk tbl = true) : TableOk tbl := by
  simp only [C18.tableOk, Bool.and_eq_true, decide_eq_true_eq, List.all_eq_true] at h
  refine ⟨h.1.1, h.1.2, fun band attr i hi => ?_⟩
  have := h.2 _ (C18.toId_mem tbl band attr i hi)
  simpa using this

theorem toSig_of_toId (tbl : SigTable) (hnd : (tbl.map (·.1)).Nodup) (b a i : Nat)
    (h : toId tbl b a = some i) : toSig tbl i = some (b, a) := by
  have hm := C18.toId_mem tbl b a i h
  unfold toSig
  cases hf : tbl.find? (fun r => r.1 == i) with
  | none =>
    rw [List.find?_eq_none] at hf
    exact absurd (beq_self_eq_true i) (hf _ hm)
  | some r =>
    have h1 := List.mem_of_find?_eq_some hf
    have h2 := List.find?_some hf
    simp only [beq_iff_eq] at h2
    have := List.inj_on_of_nodup_map hnd h1 hm h2
    rw [this]; rfl

theorem toId_of_toSig (tbl : SigTable) (hT : TableOk tbl) (i b a : Nat)
    (h1 : toSig tbl i = some (b, a)) : toId tbl b a = some i := by
  have hm := C18.toSig_mem tbl i b a h1
  cases h2 : toId tbl b a with
  | none =>
    have := (C18.valid_iff_in_table tbl b a).mpr ⟨i, hm⟩
    rw [isValid, h2] at this
    cases this
  | some j =>
    have := List.inj_on_of_nodup_map hT.sigs_nodup hm (C18.toId_mem tbl b a j h2) rfl
    rw [(Prod.mk.inj this).1]

end Rtcm.Sig
