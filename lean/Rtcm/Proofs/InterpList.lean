import Rtcm.Model.Size
import Rtcm.Proofs.DecEqns
import Rtcm.Proofs.ResLaws
import Rtcm.Proofs.BitLoop
/-!
`Steps f n c ps c'` records `n` consecutive successful runs of the element decoder `f`, from cursor
`c` to `c'`, with one token group per element. `decRepeat` succeeds exactly when there are `n` such
steps; if after `k < n` steps the element decoder fails, its outcome, error or panic, is the outcome
of the whole list. For layouts made of data fields only, a successful decode advances the cursor by
exactly `Size.maxBits` and stays inside the buffer.
-/
namespace Rtcm.Interp

inductive Steps (f : Dec) : Nat → Cur → List (List Tok) → Cur → Prop
  | zero (c : Cur) : Steps f 0 c [] c
  | succ {n : Nat} {c c1 c' : Cur} {t : List Tok} {ps : List (List Tok)} :
      f c = .ok (t, c1) → Steps f n c1 ps c' → Steps f (n + 1) c (t :: ps) c'

theorem Steps.length {f : Dec} {n : Nat} {c c' : Cur} {ps : List (List Tok)} (h : Steps f n c ps c') :
    ps.length = n := by
  induction h with
  | zero => rfl
  | succ _ _ ih => rw [List.length_cons, ih]

theorem Steps.unique {f : Dec} {n : Nat} {c c1 c2 : Cur} {ps qs : List (List Tok)}
    (h1 : Steps f n c ps c1) (h2 : Steps f n c qs c2) : ps = qs ∧ c1 = c2 := by
  induction h1 generalizing qs c2 with
  | zero => cases h2; exact ⟨rfl, rfl⟩
  | succ hf _ ih =>
    cases h2 with
    | succ hf' hs' =>
      rw [hf] at hf'
      simp only [Res.ok.injEq, Prod.mk.injEq] at hf'
      obtain ⟨rfl, rfl⟩ := hf'
      obtain ⟨rfl, rfl⟩ := ih hs'
      exact ⟨rfl, rfl⟩

theorem decRepeat_of_steps {f : Dec} {n : Nat} {c c' : Cur} {ps : List (List Tok)}
    (h : Steps f n c ps c') : decRepeat f n c = .ok (ps.flatten, c') := by
  induction h with
  | zero => rfl
  | succ hf _ ih => simp only [decRepeat_succ, hf, ih, Res.bind_ok, List.flatten_cons]

theorem steps_of_decRepeat {f : Dec} : ∀ (n : Nat) (c c' : Cur) (ts : List Tok),
    decRepeat f n c = .ok (ts, c') → ∃ ps, Steps f n c ps c' ∧ ts = ps.flatten
  | 0, c, c', ts, h => by
    cases h
    exact ⟨[], .zero _, rfl⟩
  | n + 1, c, c', ts, h => by
    rw [decRepeat_succ] at h
    obtain ⟨⟨t, c1⟩, hf, h⟩ := Res.bind_eq_ok h
    obtain ⟨⟨ts1, c2⟩, hr, h⟩ := Res.bind_eq_ok h
    cases h
    obtain ⟨ps, hs, rfl⟩ := steps_of_decRepeat n c1 _ ts1 hr
    exact ⟨t :: ps, .succ hf hs, rfl⟩

theorem decRepeat_ok_iff {f : Dec} {n : Nat} {c c' : Cur} {ts : List Tok} :
    decRepeat f n c = .ok (ts, c') ↔ ∃ ps, Steps f n c ps c' ∧ ts = ps.flatten := by
  constructor
  · exact steps_of_decRepeat n c c' ts
  · rintro ⟨ps, hs, rfl⟩
    exact decRepeat_of_steps hs

theorem decRepeat_fail_of_steps {f : Dec} {k : Nat} {c ck : Cur} {ps : List (List Tok)}
    (hs : Steps f k c ps ck) (hf : ∀ x, f ck ≠ .ok x) (m : Nat) : decRepeat f (k + 1 + m) c = f ck := by
  induction hs with
  | zero =>
    rw [show 0 + 1 + m = m + 1 by omega, decRepeat_succ]
    cases h : f _ with
    | ok x => exact absurd h (hf x)
    | _ => rfl
  | @succ n c c1 c' t ps hfc _ ih =>
    simp only [show n + 1 + 1 + m = (n + 1 + m) + 1 by omega, decRepeat_succ, hfc, Res.bind_ok, ih hf]
    cases h : f _ with
    | ok x => exact absurd h (hf x)
    | _ => rfl

theorem decRepeat_cases (f : Dec) : ∀ (n : Nat) (c : Cur),
    (∃ ps c', Steps f n c ps c' ∧ decRepeat f n c = .ok (ps.flatten, c')) ∨
    (∃ k ps ck, k < n ∧ Steps f k c ps ck ∧
      ((∃ e, f ck = .err e ∧ decRepeat f n c = .err e) ∨
       (∃ w, f ck = .panic w ∧ decRepeat f n c = .panic w))) := by
  intro n
  induction n with
  | zero => intro c; exact .inl ⟨[], c, .zero c, rfl⟩
  | succ n ih =>
    intro c
    cases hf : f c with
    | ok r =>
      obtain ⟨t, c1⟩ := r
      rcases ih c1 with ⟨ps, c', hs, hd⟩ | ⟨k, ps, ck, hk, hs, hfail⟩
      · exact .inl ⟨t :: ps, c', .succ hf hs, decRepeat_of_steps (.succ hf hs)⟩
      · refine .inr ⟨k + 1, t :: ps, ck, by omega, .succ hf hs, ?_⟩
        rcases hfail with ⟨e, he, hd⟩ | ⟨w, hw, hd⟩
        · exact .inl ⟨e, he, by simp only [decRepeat, hf, hd]⟩
        · exact .inr ⟨w, hw, by simp only [decRepeat, hf, hd]⟩
    | err e =>
      exact .inr ⟨0, [], c, by omega, .zero c, .inl ⟨e, hf, by simp only [decRepeat, hf]⟩⟩
    | panic w =>
      exact .inr ⟨0, [], c, by omega, .zero c, .inr ⟨w, hf, by simp only [decRepeat, hf]⟩⟩

def Fixed (sz : Nat) (c c' : Cur) : Prop :=
  c'.data = c.data ∧ c'.off = c.off + sz ∧ (sz = 0 ∨ c'.off ≤ 8 * c.data.length)

theorem Fixed.zero (c : Cur) : Fixed 0 c c := ⟨rfl, rfl, .inl rfl⟩

theorem Fixed.trans {a b : Nat} {c c1 c2 : Cur} (h1 : Fixed a c c1) (h2 : Fixed b c1 c2) :
    Fixed (a + b) c c2 := by
  obtain ⟨d1, o1, e1⟩ := h1
  obtain ⟨d2, o2, e2⟩ := h2
  refine ⟨d2.trans d1, by omega, ?_⟩
  rw [d1] at e2
  omega

theorem df_decode_fixed (cfg : Cfg) (s : Schema.DfSpec) (c : Cur) :
    (Df.decode cfg s c).Sat fun (_, c') => Fixed s.len c c' := by
  have hparse : (Bits.parse cfg s.it c.data c.off s.len).Sat
      fun (_, o) => o = c.off + s.len ∧ c.off + s.len ≤ 8 * c.data.length :=
    Res.sat_iff.mpr fun (p, o) hp => Bits.parse_of_ok hp
  rw [Df.decode_toks]
  refine hparse.bind fun (p, o) ⟨ho, hfit⟩ => Res.Sat.trivial.bind fun t _ => ?_
  exact ⟨rfl, ho, .inr (ho ▸ hfit)⟩

theorem decRepeat_fixed {f : Dec} {sz : Nat} (hf : ∀ c, (f c).Sat fun (_, c') => Fixed sz c c') (n : Nat)
    (c : Cur) :
    (decRepeat f n c).Sat fun (_, c') => Fixed (n * sz) c c' := by
  induction n generalizing c with
  | zero => rw [Nat.zero_mul]; exact Fixed.zero c
  | succ n ih =>
    rw [decRepeat_succ, Nat.succ_mul, Nat.add_comm]
    exact (hf c).bind fun (_, c1) h1 => (ih c1).bind fun _ h2 => h1.trans h2

open Rtcm.Schema in
mutual
/-- the fragments of fixed size `Size.maxBits` -/
def dfOnly : Frag → Bool
  | .df _ => true
  | .seq fs => dfOnlyFields fs
  | .grid16 e => dfOnly e
  | _ => false
def dfOnlyFields : Fields → Bool
  | .nil => true
  | .cons _ f rest => dfOnly f && dfOnlyFields rest
end

open Rtcm.Schema Rtcm.Size in
mutual
theorem decFrag_fixed (cfg : Cfg) : ∀ (f : Frag) (c : Cur),
    dfOnly f = true → (decFrag cfg f c).Sat fun (_, c') => Fixed (maxBits f) c c'
  | .df s, c, _ => df_decode_fixed cfg s c
  | .seq fs, c, hd => decFields_fixed' cfg fs c hd
  | .grid16 e, c, hd => decRepeat_fixed (fun c => decFrag_fixed cfg e c hd) 16 c
  | .str _ _, _, hd => nomatch hd
  | .text1029, _, hd => nomatch hd
  | .bias1059 _ _, _, hd => nomatch hd
  | .bias1065 _ _, _, hd => nomatch hd
  | .bias1230, _, hd => nomatch hd
  | .lenMiddle _ _ _ _ _, _, hd => nomatch hd
  | .vecWithLen _ _ _, _, hd => nomatch hd
  | .msm _ _ _, _, hd => nomatch hd
theorem decFields_fixed' (cfg : Cfg) : ∀ (fs : Fields) (c : Cur),
    dfOnlyFields fs = true → (decFields cfg fs c).Sat fun (_, c') => Fixed (maxBitsFields fs) c c'
  | .nil, c, _ => Fixed.zero c
  | .cons _ f rest, c, hd => by
    obtain ⟨hf, hr⟩ := Bool.and_eq_true_iff.mp hd
    rw [decFields_cons]
    exact (decFrag_fixed cfg f c hf).bind fun (_, c1) h1 =>
      (decFields_fixed' cfg rest c1 hr).bind fun _ h2 => h1.trans h2
end

open Rtcm.Schema Rtcm.Size in
theorem decFields_fixed (cfg : Cfg) : ∀ (fs : Fields) (c c' : Cur) (t : List Tok),
    dfOnlyFields fs = true → decFields cfg fs c = .ok (t, c') → Fixed (maxBitsFields fs) c c' :=
  fun fs c _ _ hd h => (decFields_fixed' cfg fs c hd).of_ok h

end Rtcm.Interp
