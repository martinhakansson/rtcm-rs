import Rtcm.Proofs.SpecialRows
import Rtcm.Props.C16
/-!
The three fragments have one shape, `Interp.listE` / `Interp.listD` (Proofs/BiasLayout).  `list_law` is
the law of that shape for ANY encoder / decoder pair on entry lists, given that a list that was written
is read back as its normal form and that the normal form is written to the same bits.  Its two
instances rest on `BiasLaws.encode_decode` (1059, 1065; normal form `C16.grouped p norm14`) and
`Bias1230Laws.encode1230_decode` (1230; the order of the mask, the biases on the 0.02 m grid).  The weak
laws (`bias_lawW`, `bias1230_lawW`) make no assumption on the entries: any token stream that is written
is read back as something.
-/
namespace Rtcm.BiasCodec
open Rtcm.Bits Rtcm.Schema Rtcm.Interp Rtcm.CurLaws Rtcm.CodecLaw
open Rtcm.SpecialRows Rtcm.Bias Rtcm.BiasLaws Rtcm.Bias1230Laws Rtcm.BiasFloat Rtcm.Layout

def entryToks (withSat : Bool) (es : List Entry) : List Tok :=
  es.flatMap fun e => (if withSat then [Tok.int e.sat] else []) ++ [.sig e.band e.attr, .flt e.bias]

theorem biasToks_eq (withSat : Bool) (es : List Entry) :
    biasToks withSat es = .count es.length :: entryToks withSat es := rfl

theorem takeBias_spec (withSat : Bool) : ∀ (n : Nat) (ts : List Tok) (es : List Entry) (r : List Tok),
    takeBias withSat n ts = some (es, r) → es.length = n ∧ ∃ pre, ts = pre ++ r
  | 0, _, _, _, h => by cases h; exact ⟨rfl, [], rfl⟩
  | n + 1, ts, es, r, h => by
    have step : ∀ (sat : Nat) (rest : List Tok),
        (match rest with
          | .sig b a :: .flt bits :: rest' =>
            match takeBias withSat n rest' with
            | some (es, r) => some (({ sat := sat, band := b, attr := a, bias := bits } : Entry) :: es, r)
            | none => none
          | _ => none) = some (es, r) → es.length = n + 1 ∧ ∃ pre, rest = pre ++ r := by
      intro sat rest hh
      split at hh
      · next b a bits rest' =>
        split at hh
        · next es1 r1 e1 =>
          cases hh
          obtain ⟨hl, pre, hp⟩ := takeBias_spec withSat n _ _ _ e1
          exact ⟨by simp [hl], .sig b a :: .flt bits :: pre, by rw [hp]; rfl⟩
        · cases hh
      · cases hh
    cases withSat with
    | true =>
      simp only [takeBias, if_true] at h
      split at h
      · next s rest =>
        obtain ⟨hl, pre, hp⟩ := step s.toNat rest h
        exact ⟨hl, .int s :: pre, by rw [hp]; rfl⟩
      · cases h
    | false =>
      simp only [takeBias, Bool.false_eq_true, if_false] at h
      exact step 0 ts h

theorem takeBias_entryToks (withSat : Bool) : ∀ (es : List Entry) (r : List Tok),
    (withSat = false → ∀ e ∈ es, e.sat = 0) →
    takeBias withSat es.length (entryToks withSat es ++ r) = some (es, r)
  | [], _, _ => rfl
  | e :: es, r, hs => by
    have ih := takeBias_entryToks withSat es r fun hw x hx => hs hw x (List.mem_cons_of_mem _ hx)
    cases withSat with
    | true =>
      simp only [entryToks, if_true, List.cons_append, List.nil_append] at ih
      simp only [entryToks, List.flatMap_cons, if_true, List.length_cons, takeBias, List.cons_append,
        List.nil_append, Int.toNat_natCast, ih]
    | false =>
      simp only [entryToks, Bool.false_eq_true, if_false, List.nil_append] at ih
      simp only [entryToks, List.flatMap_cons, Bool.false_eq_true, if_false, List.length_cons, takeBias,
        List.cons_append, List.nil_append, ih, ← hs rfl e (List.mem_cons_self ..)]

/-- without satellite tokens the splitter gives every entry satellite 0 (`takeBias_entryToks`) -/
abbrev SatOk (ws : Bool) (es : List Entry) : Prop := ws = false → ∀ e ∈ es, e.sat = 0

theorem listE_biasToks {ws : Bool} {cap : Nat} (enc : List Entry → Cur → Res Cur) {es : List Entry}
    (hl : es.length ≤ cap) (h0 : SatOk ws es) (r : List Tok) (c : Cur) :
    listE ws cap enc (biasToks ws es ++ r) c = enc es c >>= fun c' => .ok (c', r) := by
  rw [biasToks_eq, List.cons_append]
  unfold listE
  simp only
  rw [if_neg (Nat.not_lt.mpr hl), takeBias_entryToks ws es r h0]

theorem takeBias_biasToks {ws : Bool} {es es' : List Entry} {r r' rest : List Tok} {n : Nat}
    (h0 : SatOk ws es) (hts : .count n :: rest = biasToks ws es ++ r)
    (et : takeBias ws n rest = some (es', r')) : es' = es ∧ r' = r := by
  rw [biasToks_eq, List.cons_append] at hts
  simp only [List.cons.injEq, Tok.count.injEq] at hts
  obtain ⟨rfl, rfl⟩ := hts
  rw [takeBias_entryToks ws es r h0] at et
  simp only [Option.some.injEq, Prod.mk.injEq] at et
  exact ⟨et.1.symm, et.2.symm⟩

def CleanL (ws : Bool) (C : List Entry → Prop) (ts : List Tok) : Prop :=
  ∀ n rest es r, ts = .count n :: rest → takeBias ws n rest = some (es, r) → C es

theorem cleanL_biasToks {ws : Bool} {C : List Entry → Prop} {es : List Entry} (h0 : SatOk ws es)
    (h : C es) : CleanL ws C (biasToks ws es) := by
  intro n rest es' r hts et
  rw [(takeBias_biasToks (r := []) h0 (by rw [List.append_nil]; exact hts.symm) et).1]
  exact h

def RelL (ws : Bool) (G : List Entry → List Entry) (t0 nt : List Tok) : Prop :=
  ∃ es, t0 = biasToks ws es ∧ nt = biasToks ws (G es)

/-- `N` is the normal form a written list is read back as; the relation of the law only speaks of `G`,
which is `N` on anything a decoder returned -/
theorem list_law (ws : Bool) (cap : Nat) (enc : List Entry → Cur → Res Cur)
    (dec : Cur → Res (List Entry × Cur)) (C : List Entry → Prop) (N G : List Entry → List Entry)
    (hrt : ∀ es c c2, NoPanic.Good c → es.length ≤ cap → C es → enc es c = .ok c2 →
      NoPanic.Ext c c2 ∧ dec ⟨c2.data, c.off⟩ = .ok (N es, c2) ∧ (N es).length = es.length ∧
        SatOk ws (N es) ∧ enc (N es) c = .ok c2)
    (hfix : ∀ c0 es0 c0', dec c0 = .ok (es0, c0') → SatOk ws es0 ∧ N es0 = G es0) :
    LawX (listE ws cap enc) (listD ws dec) (fun _ => True) (CleanL ws C) (RelL ws G) := by
  intro ts c c' rest hgood _ _ _ hC h
  obtain ⟨n, rest0, es, rfl, hn, et, henc⟩ := listE_ok h
  obtain ⟨hl, pre, hp⟩ := takeBias_spec ws _ _ _ _ et
  obtain ⟨hext, hdec, hlen, h0, hre⟩ := hrt es c c' hgood (hl ▸ hn) (hC n rest0 es rest rfl et) henc
  refine ⟨⟨.count n :: pre, by rw [hp]; rfl⟩, hext, biasToks ws (N es), ?_, fun rest' => ?_, ?_⟩
  · exact (bind_map_ok (biasToks ws)).mpr ⟨_, hdec, rfl⟩
  · rw [listE_biasToks enc (by omega) h0, hre]; rfl
  · intro c0 t0 c0' r hd hts
    obtain ⟨es0, e0, rfl⟩ := (bind_map_ok (biasToks ws)).mp hd
    obtain ⟨hs0, hN⟩ := hfix _ _ _ e0
    obtain ⟨rfl, rfl⟩ := takeBias_biasToks hs0 hts et
    exact ⟨⟨es, rfl, by rw [hN]⟩, rfl⟩

theorem cleanL_of_decoded {ws : Bool} {dec : Cur → Res (List Entry × Cur)} {C : List Entry → Prop}
    (hdec : ∀ c0 es0 c0', dec c0 = .ok (es0, c0') → SatOk ws es0 ∧ C es0) {c0 c0' : Cur}
    {t0 : List Tok} (h : listD ws dec c0 = .ok (t0, c0')) : CleanL ws C t0 := by
  obtain ⟨es0, e0, rfl⟩ := (bind_map_ok (biasToks ws)).mp h
  exact cleanL_biasToks (hdec _ _ _ e0).1 (hdec _ _ _ e0).2

theorem bias_tokOK (ws : Bool) (es : List Bias.Entry) : TokOK (biasToks ws es) := by
  intro t ht
  obtain rfl | ht := List.mem_cons.mp ht
  · rfl
  · -- an entry gives an integer (its satellite, if any), a signal and a float: no byte string
    obtain ⟨e, _, he⟩ := List.mem_flatMap.mp ht
    rcases List.mem_append.mp he with h | h
    · cases ws with
      | true => rw [if_pos rfl, List.mem_singleton] at h; rw [h]; rfl
      | false => cases h
    · rcases List.mem_cons.mp h with rfl | h
      · rfl
      · rw [List.mem_singleton.mp h]; rfl

theorem sortBy_of_sublist (t : SigTable) (hg : Glo1230Ok t) (l : List Entry)
    (hs : (l.map key).Sublist tkeys) : Sig.sortBy (le1230 t) l = l := by
  have hnd : (l.map key).Nodup := hs.nodup (by decide)
  have hrec : ∀ e ∈ l, key e ∈ tkeys := fun e he => hs.subset (List.mem_map_of_mem he)
  rw [sorted_eq_slots t hg l hrec hnd]
  exact filterMap_find_of_sublist tkeys l (by decide) hs

theorem key_norm1230 (e : Entry) : key (norm1230 e) = key e := rfl

theorem quant_norm1230 (e : Entry) :
    quantBias res002 (norm1230 e).bias = quantBias res002 e.bias := by
  unfold norm1230
  simp only
  have hq := quantBias_lt res002 e.bias
  have := toInt_bounds (len := 16) (by decide) hq
  rw [quant_dequant_16 _ (by omega), ofInt_toInt hq]

theorem firstBad_norm : ∀ l : List Entry, firstBad1230 (l.map norm1230) = firstBad1230 l
  | [] => rfl
  | _ :: es => by rw [List.map_cons, firstBad1230, firstBad1230, firstBad_norm es]; rfl

theorem maskOf_norm : ∀ l : List Entry, maskOf (l.map norm1230) = maskOf l
  | [] => rfl
  | _ :: es => by rw [List.map_cons, maskOf, maskOf, maskOf_norm es]; rfl

theorem items1230_norm (t : SigTable) (hg : Glo1230Ok t) (l : List Entry)
    (hs : (l.map key).Sublist tkeys) : items1230 t (l.map norm1230) = items1230 t l := by
  unfold items1230
  rw [sortBy_of_sublist t hg l hs,
    sortBy_of_sublist t hg (l.map norm1230) (by rw [List.map_map]; exact hs), firstBad_norm,
    maskOf_norm, biasItems1230, biasItems1230, List.map_map]
  simp only [Function.comp_def, quant_norm1230]

theorem items1230_sorted (t : SigTable) (v : List Entry) :
    items1230 t (Sig.sortBy (le1230 t) v) = items1230 t v := by
  unfold items1230
  rw [Sig.sortBy_of_sorted _ (Sig.sortBy_sorted (le1230_total t) (le1230_trans t) v)]

theorem decode1230_out {cfg : Cfg} {c c' : Cur} {es : List Entry} (h : decode1230 cfg c = .ok (es, c')) :
    (es.map key).Sublist tkeys ∧ (∀ e ∈ es, norm1230 e = e) ∧ ∀ e ∈ es, e.sat = 0 := by
  obtain ⟨hs, hr⟩ := (NoPanic.decode1230_sat cfg c).of_ok h
  refine ⟨hs, fun e he => ?_, fun e he => (hr e he).1⟩
  obtain ⟨sat, band, attr, bias⟩ := e
  obtain ⟨rfl, sv, h1, h2, rfl⟩ := hr _ he
  have hr : -32768 ≤ sv ∧ sv ≤ 32767 := ⟨h1, by omega⟩
  unfold norm1230
  simp only
  rw [quant_dequant_16 sv hr, toInt_ofInt (w := 16) (by decide) (by omega) (by omega)]

/-- clean input of a 1230 list: no signal listed twice -/
def Clean1230 (ts : List Tok) : Prop :=
  ∀ n rest es r, ts = .count n :: rest → takeBias false n rest = some (es, r) → (es.map key).Nodup

theorem clean1230_eq : Clean1230 = CleanL false fun es => (es.map key).Nodup := rfl

theorem bias1230_law (cfg : Cfg) (glo : SigTable) (hg : Glo1230Ok glo) :
    LawX (encFrag cfg glo .bias1230) (decFrag cfg .bias1230) (fun _ => True) Clean1230 Eq := by
  rw [clean1230_eq]
  refine ((list_law false 4 (encode1230 cfg glo) (decode1230 cfg) _
    (fun es => (Sig.sortBy (le1230 glo) es).map norm1230) id ?written ?decoded).mono
    (fun _ h => h) (fun _ h => h) fun a b ⟨es, h1, h2⟩ => by rw [h1, h2]; rfl).congr
    (encFrag_bias1230 cfg glo) (decFrag_bias1230 cfg)
  case written =>
    intro es c c2 hgood _ hnd henc
    have hrec := (encode1230_ok cfg glo es c c2 hgood henc).1
    obtain ⟨hext, _, hdec⟩ := encode1230_decode cfg glo hg es hnd c c2 hgood henc
    refine ⟨ext_of_curExt hext, hdec.self, ?_, fun _ e he => ?_, ?_⟩
    · rw [List.length_map, (Sig.sortBy_perm _ es).length_eq]
    · obtain ⟨x, _, rfl⟩ := List.mem_map.mp he
      rfl
    · -- sorting and the grid change no item of the layout, so that list is written to the same bits
      rw [encode1230_putAll, items1230_norm glo hg _ (sorted_sublist glo hg es hrec hnd),
        items1230_sorted glo es, ← encode1230_putAll, henc]
  case decoded =>
    intro c0 es0 c0' e0
    -- a decoded list is in mask order and on the grid: it is its own normal form
    obtain ⟨hsub0, hnorm0, hsat0⟩ := decode1230_out e0
    refine ⟨fun _ => hsat0, ?_⟩
    rw [sortBy_of_sublist glo hg _ hsub0, List.map_congr_left hnorm0, List.map_id']
    rfl

theorem clean1230_of_decoded {cfg : Cfg} {c0 c0' : Cur} {t0 : List Tok}
    (h : decFrag cfg .bias1230 c0 = .ok (t0, c0')) : Clean1230 t0 := by
  rw [clean1230_eq]
  exact cleanL_of_decoded (ws := false) (dec := decode1230 cfg)
    (fun _ _ _ e0 => ⟨fun _ => (decode1230_out e0).2.2, (decode1230_out e0).1.nodup (by decide)⟩)
    (decFrag_bias1230 cfg c0 ▸ h)

theorem clean1230_biasToks (es : List Entry) (hs : ∀ e ∈ es, e.sat = 0) (hnd : (es.map key).Nodup) :
    Clean1230 (biasToks false es) :=
  clean1230_eq ▸ cleanL_biasToks (fun _ => hs) hnd

def cnt1230 (mask : Nat) (T : List ((Nat × Nat) × Nat)) : Nat := (T.filter fun r => mask &&& r.2 != 0).length

theorem dec1230Loop_total (cfg : Cfg) (mask : Nat) :
    ∀ (T : List ((Nat × Nat) × Nat)) (D : List Nat) (o : Nat),
    o + 16 * cnt1230 mask T ≤ 8 * D.length →
    ∃ es, dec1230Loop cfg mask T ⟨D, o⟩ = .ok (es, ⟨D, o + 16 * cnt1230 mask T⟩)
  | [], _, _, _ => ⟨[], rfl⟩
  | ((b, a), bit) :: T, D, o, hroom => by
    rw [dec1230Loop_cons]
    by_cases hb : mask &&& bit ≠ 0
    · have hc : cnt1230 mask (((b, a), bit) :: T) = cnt1230 mask T + 1 := by simp [cnt1230, hb]
      rw [hc] at hroom ⊢
      obtain ⟨es, he⟩ := dec1230Loop_total cfg mask T D (o + 16) (by omega)
      rw [if_pos hb, parseI16_eq, parseF_at cfg ⟨.i, 16⟩ (len := 16) (by decide) D o (by omega)]
      simp only [Res.bind_ok, he]
      exact ⟨_, by rw [Nat.mul_succ, Nat.add_right_comm, Nat.add_assoc]⟩
    · have hc : cnt1230 mask (((b, a), bit) :: T) = cnt1230 mask T := by simp [cnt1230, hb]
      rw [hc] at hroom ⊢
      rw [if_neg hb]
      exact dec1230Loop_total cfg mask T D o hroom

theorem cnt1230_le (l : List Entry) (h : ∀ e ∈ l, key e ∈ tkeys) :
    cnt1230 (maskOf l) gloTable1230 ≤ l.length := by
  obtain ⟨_, hbits⟩ := maskOf_spec l h
  unfold cnt1230
  have hnd : ((gloTable1230.filter fun r => maskOf l &&& r.2 != 0).map (·.1)).Nodup :=
    (List.Nodup.sublist (List.Sublist.map _ List.filter_sublist) (by decide : (gloTable1230.map (·.1)).Nodup))
  have hsub : ((gloTable1230.filter fun r => maskOf l &&& r.2 != 0).map (·.1)) ⊆ l.map key := by
    intro k hk
    obtain ⟨r, hr, rfl⟩ := List.mem_map.mp hk
    obtain ⟨hr1, hr2⟩ := List.mem_filter.mp hr
    exact (hbits r hr1).mp (by simpa using hr2)
  simpa using (List.subperm_of_subset hnd hsub).length_le

theorem bias1230_lawW (cfg : Cfg) (glo : SigTable) :
    LawW (encFrag cfg glo .bias1230) (decFrag cfg .bias1230) (fun _ => True) (fun _ => True) := by
  intro ts c c' rest hgood _ _ h
  rw [encFrag_bias1230] at h
  obtain ⟨n, rest0, es, rfl, _, _, henc⟩ := listE_ok h
  have hperm := Sig.sortBy_perm (le1230 glo) es
  obtain ⟨hrec, hext, hoff, hr⟩ := encode1230_ok cfg glo es c c' hgood henc
  have hcnt := cnt1230_le _ fun e he => hrec e (hperm.mem_iff.mp he)
  rw [hperm.length_eq] at hcnt
  have hfit2 := hext.fit
  obtain ⟨out, hd⟩ := dec1230Loop_total cfg (maskOf (Sig.sortBy (le1230 glo) es)) gloTable1230
    c'.data (c.off + 4) (by omega)
  refine ⟨ext_of_curExt hext, biasToks false out, ⟨c'.data, c.off + 4 +
    16 * cnt1230 (maskOf (Sig.sortBy (le1230 glo) es)) gloTable1230⟩,
    ?_, rfl, by simp only; omega, trivial⟩
  rw [decFrag_bias1230, decode1230_eq, parseU_eq, hr.self.1,
    readValue_wireValue_u 8 4 _ (maskOf_spec _ fun e he => hrec e (hperm.mem_iff.mp he)).1]
  exact congrArg (· >>= _) hd

theorem bias1230_rowLaw (cfg : Cfg) {glo : SigTable} (hg : Glo1230Ok glo) :
    RowLaw (encFrag cfg glo .bias1230) (decFrag cfg .bias1230) (fun _ => True) Clean1230 Eq fun _ => True :=
  ⟨bias1230_law cfg glo hg, (bias1230_lawW cfg glo).weak, fun c t c' _ h => by
    obtain ⟨es, _, rfl⟩ := (bind_map_ok (biasToks false)).mp (decFrag_bias1230 cfg c ▸ h)
    exact ⟨bias_tokOK _ _, clean1230_of_decoded h⟩⟩

theorem wire14_lt (q : Nat) : wire14 q < 2 ^ 16 :=
  readValue_lt ⟨.i, 16⟩ (by decide) (by decide) (wireValue_lt ⟨.i, 16⟩ (by decide) q)

theorem wire14_range (q : Nat) : -8192 ≤ toInt 16 (wire14 q) ∧ toInt 16 (wire14 q) ≤ 8191 := by
  have hx := wireValue_lt ⟨.i, 16⟩ (len := 14) (by decide) q
  have := toInt_bounds (len := 14) (by decide) hx
  rw [wire14, toInt_readValue_i 16 (by decide) (by decide) hx]
  omega

theorem quant_norm14 (e : Entry) :
    quantBias res001 (norm14 e).bias = wire14 (quantBias res001 e.bias) := by
  unfold norm14
  simp only
  rw [quant_dequant_14 _ (wire14_range _), ofInt_toInt (wire14_lt _)]

theorem wire_norm14 (e : Entry) :
    wireValue ⟨.i, 16⟩ 14 (quantBias res001 (norm14 e).bias)
      = wireValue ⟨.i, 16⟩ 14 (quantBias res001 e.bias) := by
  rw [quant_norm14]
  unfold wire14
  exact wireValue_readValue ⟨.i, 16⟩ (by decide) (by decide) (wireValue_lt ⟨.i, 16⟩ (by decide) _)
    (fun h => by cases h)

theorem entryItems_norm14 (p : Params) (es : List Entry) :
    (entryItems p (es.map norm14)).map Item.wire = (entryItems p es).map Item.wire := by
  unfold entryItems
  rw [List.flatMap_map, List.map_flatMap, List.map_flatMap]
  refine List.flatMap_congr fun e _ => ?_
  show List.map Item.wire (match Sig.toId p.tbl e.band e.attr with | some sid => _ | none => _) = _
  cases Sig.toId p.tbl e.band e.attr with
  | none => rfl
  | some sid => simp only [List.map_cons, Item.wire, wire_norm14]

theorem flatMap_single {α β : Type} : ∀ (l : List α), l.Nodup → ∀ (s : α), s ∈ l → ∀ (g : α → List β),
    (∀ a ∈ l, a ≠ s → g a = []) → l.flatMap g = g s := by
  intro l
  induction l with
  | nil => intro _ s hs; cases hs
  | cons x xs ih =>
    intro hnd s hs g hg
    rw [List.nodup_cons] at hnd
    rw [List.flatMap_cons]
    rcases List.mem_cons.mp hs with rfl | hs'
    · have : xs.flatMap g = [] := by
        rw [List.flatMap_eq_nil_iff]
        intro a ha
        exact hg a (List.mem_cons_of_mem _ ha) (fun h => hnd.1 (h ▸ ha))
      rw [this, List.append_nil]
    · have hx : g x = [] := hg x (List.mem_cons_self ..) (fun h => hnd.1 (h ▸ hs'))
      rw [hx, List.nil_append]
      exact ih hnd.2 s hs' g (fun a ha => hg a (List.mem_cons_of_mem _ ha))

theorem grouped_filter (p : Params) (f : Entry → Entry) (hf : ∀ e, (f e).sat = e.sat) (v : List Entry)
    (s : Nat) (hs : s ∈ satsOf p v) :
    (C16.grouped p f v).filter (fun e => e.sat == s) = (v.filter (fun e => e.sat == s)).map f := by
  unfold C16.grouped
  rw [List.filter_flatMap]
  rw [flatMap_single (satsOf p v) (satsOf_nodup p v) s hs]
  · rw [List.filter_eq_self]
    exact fun e he => by simpa using C16.sat_of_mem_group hf he
  · intro a _ hne
    rw [List.filter_eq_nil_iff]
    exact fun e he => by simpa [C16.sat_of_mem_group hf he] using hne

theorem mem_grouped (p : Params) (f : Entry → Entry) (v : List Entry) (hc : ∀ e ∈ v, e.sat ≤ p.maxSat)
    (e : Entry) : e ∈ C16.grouped p f v ↔ ∃ x ∈ v, f x = e := by
  rw [(C16.grouped_perm p f v hc).mem_iff, List.mem_map]

theorem satsOf_grouped (p : Params) (f : Entry → Entry) (hf : ∀ e, (f e).sat = e.sat) (v : List Entry)
    (hc : ∀ e ∈ v, e.sat ≤ p.maxSat) : satsOf p (C16.grouped p f v) = satsOf p v := by
  unfold satsOf
  apply List.filter_congr
  intro s _
  rw [Bool.eq_iff_iff, List.any_eq_true, List.any_eq_true]
  constructor
  · rintro ⟨e, he, hes⟩
    obtain ⟨x, hx, rfl⟩ := (mem_grouped p f v hc e).mp he
    exact ⟨x, hx, by rw [← hf]; exact hes⟩
  · rintro ⟨x, hx, hxs⟩
    exact ⟨f x, (mem_grouped p f v hc _).mpr ⟨x, hx, rfl⟩, by rw [hf]; exact hxs⟩

theorem checkSats_grouped (p : Params) (f : Entry → Entry) (hf : ∀ e, (f e).sat = e.sat) (v : List Entry)
    (hc : ∀ e ∈ v, e.sat ≤ p.maxSat) : checkSats p (C16.grouped p f v) = true := by
  rw [checkSats_iff]
  intro e he
  obtain ⟨x, hx, rfl⟩ := (mem_grouped p f v hc e).mp he
  rw [hf]; exact hc x hx

theorem items_grouped (p : Params) (v : List Entry) (hc : ∀ e ∈ v, e.sat ≤ p.maxSat) :
    (items p (C16.grouped p norm14 v)).map Item.wire = (items p v).map Item.wire := by
  have hf : ∀ e, (norm14 e).sat = e.sat := fun _ => rfl
  unfold items
  rw [checkSats_grouped p norm14 hf v hc, satsOf_grouped p norm14 hf v hc,
    (checkSats_iff p v).mpr hc]
  split
  · rfl
  · unfold satItems
    rw [List.map_cons, List.map_cons, List.map_flatMap, List.map_flatMap]
    refine congrArg _ (List.flatMap_congr fun s hs => ?_)
    have hnum : (((v.filter fun e => e.sat == s).map norm14).filter (C16.recognised p)).length
        = ((v.filter fun e => e.sat == s).filter (C16.recognised p)).length := by
      rw [List.filter_map, List.length_map]; rfl
    rw [grouped_filter p norm14 hf v s hs, hnum]
    split
    · rfl
    · simp only [List.map_cons, entryItems_norm14]

theorem encode_grouped (cfg : Cfg) (p : Params) (hp : ParamsOk p) (v : List Entry) (c : Cur)
    (hg : Good c) (hc : ∀ e ∈ v, e.sat ≤ p.maxSat) :
    encode cfg p (C16.grouped p norm14 v) c = encode cfg p v c := by
  rw [encode_putAll, encode_putAll]
  exact putAll_congr cfg _ _ c hg (items_ok p hp _) (items_ok p hp v) (items_grouped p v hc)

theorem toId_isSome_of_toSig {tbl : SigTable} {sid b a : Nat} (h : Sig.toSig tbl sid = some (b, a)) :
    (Sig.toId tbl b a).isSome = true :=
  (C18.valid_iff_in_table tbl b a).mpr ⟨sid, C18.toSig_mem tbl sid b a h⟩

theorem norm14_dequant (sat b a : Nat) (sv : Int) (h : -8192 ≤ sv ∧ sv ≤ 8191) :
    norm14 { sat := sat, band := b, attr := a, bias := dequantBias res001 sv }
      = { sat := sat, band := b, attr := a, bias := dequantBias res001 sv } := by
  unfold norm14
  simp only
  rw [quant_dequant_14 sv h]
  have h16 : toInt 16 (ofInt 16 sv) = sv := toInt_ofInt (by decide) (by omega) (by omega)
  rw [wire14_of_fits (ofInt_lt 16 sv) (by rw [h16]; omega), h16]

theorem biasDecode_out {cfg : Cfg} {p : Params} {c c' : Cur} {es : List Entry}
    (h : Bias.decode cfg p c = .ok (es, c')) : ∀ e ∈ es, C16.recognised p e = true ∧ norm14 e = e := by
  intro e he
  obtain ⟨sat, band, attr, bias⟩ := e
  obtain ⟨⟨sid, hsig⟩, sv, h1, h2, rfl⟩ := ((NoPanic.decode_sat cfg p c).of_ok h).2 _ he
  exact ⟨toId_isSome_of_toSig hsig, norm14_dequant _ _ _ _ ⟨h1, by omega⟩⟩

/-- clean input of a 1059/1065 list: every entry's signal is in the table -/
def CleanBias (p : Params) (ts : List Tok) : Prop :=
  ∀ n rest es r, ts = .count n :: rest → takeBias true n rest = some (es, r) →
    ∀ e ∈ es, C16.recognised p e = true

/-- the decoded list comes back regrouped by ascending satellite -/
def RelBias (p : Params) (t0 nt : List Tok) : Prop :=
  ∃ es, t0 = biasToks true es ∧ nt = biasToks true (C16.grouped p id es)

theorem cleanBias_eq (p : Params) :
    CleanBias p = CleanL true fun es => ∀ e ∈ es, C16.recognised p e = true := rfl

theorem relBias_eq (p : Params) : RelBias p = RelL true (C16.grouped p id) := rfl

abbrev biasE (cfg : Cfg) (p : Params) : Enc := listE true p.cap (Bias.encode cfg p)

abbrev biasD (cfg : Cfg) (p : Params) : Dec := listD true (Bias.decode cfg p)

theorem bias_law (cfg : Cfg) (p : Params) (hp : ParamsOk p) :
    LawX (biasE cfg p) (biasD cfg p) (fun _ => True) (CleanBias p) (RelBias p) := by
  rw [cleanBias_eq, relBias_eq]
  refine list_law true p.cap (Bias.encode cfg p) (Bias.decode cfg p) _ (C16.grouped p norm14)
    (C16.grouped p id) ?written ?decoded
  case written =>
    intro es c c2 hgood hcap hrec henc
    obtain ⟨hdec, hperm, _, hext⟩ :=
      C16.bias_encode_ok_decodes_same_multiset cfg p hp es hrec hcap c c2 hgood henc
    refine ⟨ext_of_curExt hext, hdec, by rw [hperm.length_eq, List.length_map],
      (fun h => nomatch h), ?_⟩
    -- regrouping and the grid change no wire value of the layout
    rw [encode_grouped cfg p hp es c hgood (C16.bias_no_silent_loss cfg p hp.satNum es c c2 henc).1,
      henc]
  case decoded =>
    intro _ es0 _ e0
    -- a decoded list is on the grid already: regrouping it is all the normal form does
    exact ⟨(fun h => nomatch h),
      C16.grouped_congr p norm14 id es0 fun e he => (biasDecode_out e0 e he).2⟩

theorem cleanBias_of_decoded {cfg : Cfg} {p : Params} {c0 c0' : Cur} {t0 : List Tok}
    (h : biasD cfg p c0 = .ok (t0, c0')) : CleanBias p t0 :=
  cleanBias_eq p ▸ cleanL_of_decoded (ws := true) (dec := Bias.decode cfg p)
    (fun _ _ _ e0 => ⟨(fun h => nomatch h), fun e he => (biasDecode_out e0 e he).1⟩) h

theorem cleanBias_biasToks (p : Params) (es : List Entry) (h : ∀ e ∈ es, C16.recognised p e = true) :
    CleanBias p (biasToks true es) :=
  cleanBias_eq p ▸ cleanL_biasToks (fun h => nomatch h) h

theorem grouped_idem (p : Params) (f : Entry → Entry) (hf : ∀ e, (f e).sat = e.sat) (v : List Entry)
    (hc : ∀ e ∈ v, e.sat ≤ p.maxSat) :
    C16.grouped p id (C16.grouped p f v) = C16.grouped p f v := by
  show (satsOf p (C16.grouped p f v)).flatMap
      (fun s => ((C16.grouped p f v).filter fun e => e.sat == s).map id)
    = (satsOf p v).flatMap fun s => (v.filter fun e => e.sat == s).map f
  rw [satsOf_grouped p f hf v hc]
  refine List.flatMap_congr fun s hs => ?_
  rw [grouped_filter p f hf v s hs, List.map_id]

/-- the tokens a 1059/1065 frame decodes to carry a list that is its own regrouping -/
def QBias (p : Params) (nt : List Tok) : Prop := ∃ L, nt = biasToks true L ∧ C16.grouped p id L = L

theorem bias_lawW (cfg : Cfg) (p : Params) (hp : ParamsOk p) :
    LawW (biasE cfg p) (biasD cfg p) (fun _ => True) (QBias p) := by
  intro ts c c' rest hgood _ _ h
  obtain ⟨n, rest0, es, rfl, hn, et, henc⟩ := listE_ok h
  obtain ⟨hl, _⟩ := takeBias_spec true _ _ _ _ et
  obtain ⟨hext, hdec⟩ := encode_decode cfg p hp es (by omega) c c' hgood henc
  obtain ⟨hsat, _, _⟩ := C16.bias_no_silent_loss cfg p hp.satNum es c c' henc
  refine ⟨ext_of_curExt hext, biasToks true (C16.grouped p norm14 (es.filter (C16.recognised p))), c',
    ?_, rfl, Nat.le_refl _, ⟨_, rfl, ?_⟩⟩
  · exact (bind_map_ok (biasToks true)).mpr ⟨_, hdec.self, rfl⟩
  · exact grouped_idem p norm14 (fun _ => rfl) _ fun e he => hsat e (List.mem_filter.mp he).1

theorem regroup_fixed (p : Params) {nt toks' : List Tok} (hq : QDfs (QBias p) nt)
    (hr : RelDfs (RelBias p) nt toks') : toks' = nt := by
  obtain ⟨hdr, tl, hnc, rfl, L, rfl, hL⟩ := hq
  obtain ⟨hdr2, tl2, tl2', hnc2, e1, rfl, es, rfl, rfl⟩ := hr
  rw [biasToks_eq, biasToks_eq] at e1
  obtain ⟨rfl, hlen, hent⟩ := split_at_count hdr hdr2 _ _ _ _ hnc hnc2 e1
  -- `takeBias` is a left inverse of `entryToks`
  have h1 := takeBias_entryToks true L [] (fun h => nomatch h)
  rw [hent, hlen, takeBias_entryToks true es [] (fun h => nomatch h)] at h1
  cases h1
  rw [hL]

theorem bias_rowLaw (cfg : Cfg) (glo : SigTable) {f : Frag} {p : Bias.Params} (hp : ParamsOk p)
    (hE : ∀ ts c, encFrag cfg glo f ts c = biasE cfg p ts c) (hD : ∀ c, decFrag cfg f c = biasD cfg p c) :
    RowLaw (encFrag cfg glo f) (decFrag cfg f) (fun _ => True) (CleanBias p) (RelBias p) (QBias p) :=
  ⟨(bias_law cfg p hp).congr hE hD,
    ((bias_lawW cfg p hp).congr hE hD).weak,
    fun c _ _ _ h => by
      obtain ⟨es, _, rfl⟩ := (bind_map_ok (biasToks true)).mp (hD c ▸ h)
      exact ⟨bias_tokOK _ _, cleanBias_of_decoded (hD c ▸ h)⟩⟩

end Rtcm.BiasCodec
