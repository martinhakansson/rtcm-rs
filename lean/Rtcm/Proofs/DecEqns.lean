import Rtcm.Model.Interp
/-!
The model writes every sequencing step as a three-way `match`; here each decoder gets its equation
in bind form, once, so that a proof about it can go along the `>>=` chain with `Res.Sat.bind` /
`Res.bind_eq_ok` instead of unfolding the function and splitting its matches.
-/
namespace Rtcm
open Schema

-- the matchers of the model are unfolded by the defeq check only with smart unfolding off; then both
-- sides of an equation proved by `rfl` below are the same `casesOn` term
set_option smartUnfolding false

namespace Text

theorem parseU_eq_bind (cfg : Cfg) (w len : Nat) (c : Cur) :
    parseU cfg w len c =
      Bits.parse cfg ⟨.u, w⟩ c.data c.off len >>= fun (v, o) => .ok (v, { c with off := o }) := rfl

theorem parseBytes_succ (cfg : Cfg) (n : Nat) (c : Cur) :
    parseBytes cfg (n + 1) c =
      parseU cfg 8 8 c >>= fun (b, c') => parseBytes cfg n c' >>= fun (bs, c'') => .ok (b :: bs, c'') := rfl

theorem strDecode_eq (cfg : Cfg) (cap lenBits : Nat) (c : Cur) :
    strDecode cfg cap lenBits c =
      parseU cfg 8 lenBits c >>= fun (len, c') =>
        if len > cap then .err .capacityExceeded
        else parseBytes cfg len c' >>= fun (bs, c'') => .ok (bs.map pushNorm, c'') := rfl

theorem text1029Decode_eq (cfg : Cfg) (c : Cur) :
    text1029Decode cfg c =
      parseU cfg 8 7 c >>= fun (_, c1) => parseU cfg 8 8 c1 >>= fun (len, c2) =>
        let data := c2.data.drop (c2.off / 8)
        if data.length < len then .err .bufferOverflow
        else if validUtf8 (data.take len) then .ok (data.take len, { c2 with off := c2.off + len * 8 })
        else .err .invalidUtf8String := rfl

end Text

namespace Interp

theorem decRepeat_succ (f : Dec) (n : Nat) (c : Cur) :
    decRepeat f (n + 1) c =
      f c >>= fun (t, c') => decRepeat f n c' >>= fun (ts, c'') => .ok (t ++ ts, c'') := rfl

end Interp

open Text

namespace Df

theorem decode_eq (cfg : Cfg) (s : DfSpec) (c : Cur) :
    Df.decode cfg s c =
      Bits.parse cfg s.it c.data c.off s.len >>= fun (p, o) =>
        dequantise cfg s (carrierVal s.it p) >>= fun t =>
          match s.inv with
          | some inv =>
            if carrierVal s.it p = inv then .ok ([.absent], { c with off := o })
            else .ok ([.present, t], { c with off := o })
          | none => .ok ([t], { c with off := o }) := rfl

/-- the tokens of a field whose carrier reads `sv` and dequantises to `tk` -/
def toksOf (s : DfSpec) (sv : Int) (tk : Tok) : List Tok :=
  match s.inv with
  | some inv => if sv = inv then [.absent] else [.present, tk]
  | none => [tk]

theorem mem_toksOf {s : DfSpec} {sv : Int} {tk x : Tok} (h : x ∈ toksOf s sv tk) :
    x = .absent ∨ x = .present ∨ x = tk := by
  unfold toksOf at h
  split at h
  · split at h
    · exact .inl (List.mem_singleton.mp h)
    · rcases List.mem_cons.mp h with h | h
      · exact .inr (.inl h)
      · exact .inr (.inr (List.mem_singleton.mp h))
  · exact .inr (.inr (List.mem_singleton.mp h))

/-- `decode_eq` with the three successes written as one: not by `rfl`, the `match` moves inside `.ok` -/
theorem decode_toks (cfg : Cfg) (s : DfSpec) (c : Cur) :
    Df.decode cfg s c =
      Bits.parse cfg s.it c.data c.off s.len >>= fun (p, o) =>
        dequantise cfg s (carrierVal s.it p) >>= fun t =>
          .ok (toksOf s (carrierVal s.it p) t, { c with off := o }) := by
  rw [decode_eq]
  refine congrArg (Bits.parse cfg s.it c.data c.off s.len >>= ·) (funext fun (p, o) => ?_)
  refine congrArg (dequantise cfg s (carrierVal s.it p) >>= ·) (funext fun t => ?_)
  unfold toksOf
  cases s.inv with
  | none => rfl
  | some inv =>
    dsimp only
    split
    · rfl
    · rfl

section
open Rtcm.SoftFloat

theorem dequantise_of_float {cfg : Cfg} {s : DfSpec} (hf : s.dt.isFloat = true) (sv : Int) :
    dequantise cfg s sv =
      let x := ofInt (fmtOf s.dt) sv
      let x := match s.res with
        | some r => mul (fmtOf s.dt) x (evalF (fmtOf s.dt) r)
        | none => x
      let x := match s.bias with
        | some b => add (fmtOf s.dt) x (evalF (fmtOf s.dt) b)
        | none => x
      .ok (.flt (toBits (fmtOf s.dt) x)) := by
  unfold dequantise
  rw [if_pos hf]
  rfl

theorem dequantise_of_int {cfg : Cfg} {s : DfSpec} (hf : s.dt.isFloat = false) (sv : Int) :
    dequantise cfg s sv =
      (match s.res with
        | some r => arithDT cfg s.dt (wrapDT s.dt sv * evalI r) "multiply"
        | none => .ok (wrapDT s.dt sv)) >>= fun z =>
      match s.bias with
      | some b => arithDT cfg s.dt (z + evalI b) "add" >>= fun z => .ok (.int z)
      | none => .ok (.int z) := by
  unfold dequantise
  rw [if_neg (by rw [hf]; decide)]
  rfl

end

end Df

namespace Bias

theorem parseI16_eq_bind (cfg : Cfg) (len : Nat) (c : Cur) :
    parseI16 cfg len c =
      Bits.parse cfg ⟨.i, 16⟩ c.data c.off len >>= fun (v, o) =>
        .ok (Bits.toInt 16 v, { c with off := o }) := rfl

theorem decBiases_succ (cfg : Cfg) (p : Params) (sat n : Nat) (acc : List Entry) (c : Cur) :
    decBiases cfg p sat (n + 1) acc c =
      parseU cfg 8 5 c >>= fun (sid, c1) =>
        match Sig.toSig p.tbl sid with
        | some (b, a) =>
          parseI16 cfg 14 c1 >>= fun (sv, c2) =>
            if acc.length ≥ p.cap then .err .capacityExceeded
            else decBiases cfg p sat n
              (acc ++ [{ sat := sat, band := b, attr := a, bias := dequantBias res001 sv }]) c2
        | none => decBiases cfg p sat n acc c1 := rfl

theorem decSats_succ (cfg : Cfg) (p : Params) (n : Nat) (acc : List Entry) (c : Cur) :
    decSats cfg p (n + 1) acc c =
      parseU cfg 8 p.satBits c >>= fun (sat, c1) => parseU cfg 8 5 c1 >>= fun (num, c2) =>
        decBiases cfg p sat num acc c2 >>= fun (acc', c3) => decSats cfg p n acc' c3 := rfl

theorem decode_eq (cfg : Cfg) (p : Params) (c : Cur) :
    decode cfg p c = parseU cfg 8 6 c >>= fun (satNum, c1) => decSats cfg p satNum [] c1 := rfl

theorem dec1230Loop_cons (cfg : Cfg) (mask b a bit : Nat) (rest : List ((Nat × Nat) × Nat)) (c : Cur) :
    dec1230Loop cfg mask (((b, a), bit) :: rest) c =
      if mask &&& bit ≠ 0 then
        parseI16 cfg 16 c >>= fun (sv, c1) => dec1230Loop cfg mask rest c1 >>= fun (es, c2) =>
          .ok ({ sat := 0, band := b, attr := a, bias := dequantBias res002 sv } :: es, c2)
      else dec1230Loop cfg mask rest c := rfl

theorem decode1230_eq (cfg : Cfg) (c : Cur) :
    decode1230 cfg c = parseU cfg 8 4 c >>= fun (mask, c1) => dec1230Loop cfg mask gloTable1230 c1 := rfl

end Bias

namespace Msm

theorem decColumn_succ (cfg : Cfg) (s : DfSpec) (n : Nat) (c : Cur) :
    decColumn cfg s (n + 1) c =
      Df.decode cfg s c >>= fun (t, c') => decColumn cfg s n c' >>= fun (ts, c'') => .ok (t :: ts, c'') := rfl

theorem decColumns_cons (cfg : Cfg) (n : Nat) (nm : String) (s : DfSpec) (fs : List (String × DfSpec)) (c : Cur) :
    decColumns cfg n ((nm, s) :: fs) c =
      decColumn cfg s n c >>= fun (col, c') => decColumns cfg n fs c' >>= fun (cols, c'') =>
        .ok (col :: cols, c'') := rfl

theorem lookupSigs_cons (tbl : SigTable) (sat sid : Nat) (rest : List (Nat × Nat)) :
    lookupSigs tbl ((sat, sid) :: rest) =
      match Sig.toSig tbl sid with
      | some (b, a) => lookupSigs tbl rest >>= fun r => .ok ((sat, b, a) :: r)
      | none => .err .invalidSignalId := rfl

/-- `mkSats`, `mkSigs`: the two `let`s of `Msm.decode`, the rows assembled from the decoded columns -/
def mkSats (satIds : List Nat) (satCols : List (List (List Tok))) : List SatRow :=
  (List.range satIds.length).map fun i => { id := satIds.getD i 0, fields := rowOf satCols i }

def mkSigs (cellSigs : List (Nat × Nat × Nat)) (sigCols : List (List (List Tok))) : List SigRow :=
  (List.range cellSigs.length).map fun i =>
    let (sat, b, a) := cellSigs.getD i (0, 0, 0)
    { sat := sat, band := b, attr := a, fields := rowOf sigCols i }

theorem decode_eq (cfg : Cfg) (tbl : SigTable) (satFields sigFields : List (String × DfSpec)) (c : Cur) :
    decode cfg tbl satFields sigFields c =
      parseU cfg 64 64 c >>= fun (satMask, c1) => parseU cfg 32 32 c1 >>= fun (sigMask, c2) =>
        if satMask = 0 ∧ sigMask = 0 then .ok ([], [], c2)
        else if popcount 64 satMask * popcount 32 sigMask > 64 ∨ popcount 64 satMask * popcount 32 sigMask = 0
          then .err .invalidSatelliteSignalCount
        else
          parseU cfg 64 (popcount 64 satMask * popcount 32 sigMask) c2 >>= fun (cellMask, c3) =>
          let cells := cellIds (maskIds 64 satMask) (maskIds 32 sigMask) cellMask
          decColumns cfg (maskIds 64 satMask).length satFields c3 >>= fun (satCols, c4) =>
          lookupSigs tbl cells >>= fun cellSigs =>
          decColumns cfg cells.length sigFields c4 >>= fun (sigCols, c5) =>
          .ok (mkSats (maskIds 64 satMask) satCols, mkSigs cellSigs sigCols, c5) := rfl

end Msm

namespace Interp

theorem decFrag_str (cfg : Cfg) (cap lenBits : Nat) (c : Cur) :
    decFrag cfg (.str cap lenBits) c =
      strDecode cfg cap lenBits c >>= fun (b, c') => .ok ([.bytes b], c') := rfl

theorem decFrag_text1029 (cfg : Cfg) (c : Cur) :
    decFrag cfg .text1029 c = text1029Decode cfg c >>= fun (b, c') => .ok ([.bytes b], c') := rfl

theorem decFrag_bias1059 (cfg : Cfg) (cap : Nat) (tbl : SigTable) (c : Cur) :
    decFrag cfg (.bias1059 cap tbl) c =
      Bias.decode cfg (params1059 cap tbl) c >>= fun (es, c') => .ok (biasToks true es, c') := rfl

theorem decFrag_bias1065 (cfg : Cfg) (cap : Nat) (tbl : SigTable) (c : Cur) :
    decFrag cfg (.bias1065 cap tbl) c =
      Bias.decode cfg (params1065 cap tbl) c >>= fun (es, c') => .ok (biasToks true es, c') := rfl

theorem decFrag_bias1230 (cfg : Cfg) (c : Cur) :
    decFrag cfg .bias1230 c = Bias.decode1230 cfg c >>= fun (es, c') => .ok (biasToks false es, c') := rfl

theorem decFrag_msm (cfg : Cfg) (tbl : SigTable) (sat sig : List (String × DfSpec)) (c : Cur) :
    decFrag cfg (.msm tbl sat sig) c =
      Msm.decode cfg tbl sat sig c >>= fun (sats, sigs, c') => .ok (satToks sats ++ sigToks sigs, c') := rfl

theorem decFrag_lenMiddle (cfg : Cfg) (f1 f2 : Fields) (lenDf : DfSpec) (elem : Frag) (cap : Nat) (c : Cur) :
    decFrag cfg (.lenMiddle f1 lenDf f2 elem cap) c =
      decFields cfg f1 c >>= fun (t1, c1) => Df.decode cfg lenDf c1 >>= fun (tn, c2) =>
        match tn with
        | [.int n] =>
          decFields cfg f2 c2 >>= fun (t2, c3) =>
            if n.toNat > cap then .err .capacityExceeded
            else decRepeat (decFrag cfg elem) n.toNat c3 >>= fun (te, c4) =>
              .ok (t1 ++ [.count n.toNat] ++ t2 ++ te, c4)
        | _ => .panic "count field did not decode to an integer" := rfl

theorem decFrag_vecWithLen (cfg : Cfg) (elem : Frag) (cap lenBits : Nat) (c : Cur) :
    decFrag cfg (.vecWithLen elem cap lenBits) c =
      Bits.parse cfg ⟨.u, 16⟩ c.data c.off lenBits >>= fun (n, o) =>
        if n > cap then .err .capacityExceeded
        else decRepeat (decFrag cfg elem) n { c with off := o } >>= fun (te, c') =>
          .ok (.count n :: te, c') := rfl

theorem decFields_cons (cfg : Cfg) (nm : String) (f : Frag) (rest : Fields) (c : Cur) :
    decFields cfg (.cons nm f rest) c =
      decFrag cfg f c >>= fun (t, c') => decFields cfg rest c' >>= fun (ts, c'') => .ok (t ++ ts, c'') := rfl

end Interp
end Rtcm
