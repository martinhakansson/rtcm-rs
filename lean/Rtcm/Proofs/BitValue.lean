import Rtcm.Proofs.BitPrim
/-!
`sign_fix`, `sign_fix_rev` (src/df/bit_value.rs) compute `readValue` / `wireValue` without a panic.
Both go through the integers: for `I` fields they are `ofInt ∘ toInt` between the widths `len` and
`w`; for `SM` fields `smInt` / `smWire` stand where `toInt len` / `ofInt len` do. The round trips, the
range of what is read and its idempotence are then `toInt_ofInt` and `ofInt_toInt`.
-/
namespace Rtcm.Bits

theorem and_two_pow_eq_zero_iff (x k : Nat) : x &&& 2 ^ k = 0 ↔ x.testBit k = false := by
  constructor
  · intro h
    have := congrArg (fun y => y.testBit k) h
    simpa [Nat.testBit_and, Nat.testBit_two_pow] using this
  · intro h
    apply Nat.eq_of_testBit_eq
    intro j
    simp only [Nat.testBit_and, Nat.testBit_two_pow, Nat.zero_testBit]
    by_cases hj : k = j
    · subst hj; simp [h]
    · simp [hj]

theorem testBit_two_pow_sub_two_pow {w k : Nat} (hk : k ≤ w) (t : Nat) :
    (2 ^ w - 2 ^ k).testBit t = (decide (k ≤ t) && decide (t < w)) := by
  have hle : 2 ^ k ≤ 2 ^ w := Nat.pow_le_pow_right (by decide) hk
  have hpos := Nat.two_pow_pos k
  have e : 2 ^ w - 2 ^ k = 2 ^ w - ((2 ^ k - 1) + 1) := by omega
  rw [e, Nat.testBit_two_pow_sub_succ (by omega), Nat.testBit_two_pow_sub_one, Bool.eq_iff_iff]
  simp only [Bool.and_eq_true, Bool.not_eq_true', decide_eq_true_eq, decide_eq_false_iff_not]
  omega

theorem shl_one (cfg : Cfg) {w k : Nat} (hk : k < w) : shl cfg w 1 k = .ok (2 ^ k) := by
  rw [shl, if_pos hk, Nat.one_shiftLeft, Nat.mod_eq_of_lt (Nat.pow_lt_pow_right (by decide) hk)]

theorem shl_allOnes (cfg : Cfg) {w k : Nat} (hk : k < w) :
    shl cfg w (allOnes w) k = .ok (2 ^ w - 2 ^ k) := by
  rw [shl, if_pos hk]
  congr 1
  apply Nat.eq_of_testBit_eq
  intro t
  rw [testBit_two_pow_sub_two_pow (by omega), Nat.testBit_mod_two_pow, Nat.testBit_shiftLeft,
    allOnes, Nat.testBit_two_pow_sub_one, Bool.eq_iff_iff]
  simp only [Bool.and_eq_true, decide_eq_true_eq]
  omega

theorem notW_mask {w k : Nat} (hk : k ≤ w) : notW w (2 ^ w - 2 ^ k) = 2 ^ k - 1 := by
  apply Nat.eq_of_testBit_eq
  intro t
  rw [notW, allOnes, Nat.testBit_xor, testBit_two_pow_sub_two_pow hk, Nat.testBit_two_pow_sub_one,
    Nat.testBit_two_pow_sub_one]
  -- `!` flips the bits below `w`: those of the mask, `k ≤ t < w`, become 0, those below `k` become 1
  by_cases hw : t < w
  · rw [decide_eq_true hw, Bool.true_xor, Bool.and_true, ← decide_not, decide_eq_decide]
    omega
  · rw [decide_eq_false hw, Bool.and_false, Bool.false_xor, decide_eq_false (by omega)]

theorem or_mask_eq_add {w k x : Nat} (hk : k ≤ w) (hx : x < 2 ^ k) :
    x ||| (2 ^ w - 2 ^ k) = x + (2 ^ w - 2 ^ k) := by
  have e : 2 ^ w - 2 ^ k = 2 ^ k * (2 ^ (w - k) - 1) := by
    rw [Nat.mul_sub, ← Nat.pow_add, Nat.mul_one]
    congr 2; omega
  rw [e, Nat.or_comm, Nat.add_comm, Nat.two_pow_add_eq_or_of_lt hx]

theorem signFix_eq (cfg : Cfg) (it : IT) {len x : Nat} (h1 : 1 ≤ len) (hlw : len ≤ it.w)
    (hx : x < 2 ^ len) : signFix cfg it x len = .ok (readValue it len x) := by
  obtain ⟨kind, w⟩ := it
  simp only at hlw
  have hl1 : len - 1 < w := by omega
  cases kind
  · rfl
  · simp only [signFix, readValue, subU_ok cfg h1, shl_one cfg hl1, Res.bind_ok,
      and_two_pow_eq_zero_iff]
    by_cases hb : x.testBit (len - 1) = true
    · by_cases hw : len = w
      · simp [hw]
      · have hlt : len < w := by omega
        simp only [hb, hw, Bool.true_eq_false, or_self, if_false, shl_allOnes cfg hlt, Res.bind_ok,
          ne_eq, not_false_eq_true, and_self, if_true, or_mask_eq_add hlw hx]
    · simp [hb]
  · simp only [signFix, readValue, subU_ok cfg h1, shl_one cfg hl1, Res.bind_ok,
      and_two_pow_eq_zero_iff]
    by_cases hb : x.testBit (len - 1) = true
    · simp only [hb, Bool.true_eq_false, if_false, shl_allOnes cfg hl1, Res.bind_ok, if_true,
        notW_mask (Nat.le_of_lt hl1), Nat.and_two_pow_sub_one_eq_mod]
    · simp [hb]

theorem wireValue_lt (it : IT) {len : Nat} (h1 : 1 ≤ len) (v : Nat) :
    wireValue it len v < 2 ^ len := by
  have hpos := Nat.two_pow_pos len
  have e := Nat.two_pow_pred_add_two_pow_pred h1
  obtain ⟨kind, w⟩ := it
  cases kind
  · exact Nat.mod_lt _ hpos
  · exact Nat.mod_lt _ hpos
  · simp only [wireValue]
    split
    · have := Nat.mod_lt (negW w v) (Nat.two_pow_pos (len - 1))
      split <;> omega
    · exact Nat.mod_lt _ hpos

theorem signFixRev_spec (cfg : Cfg) (it : IT) {len : Nat} (v : Nat) (h1 : 1 ≤ len) (hlw : len ≤ it.w) :
    ∃ value, signFixRev cfg it v len = .ok value ∧ value % 2 ^ len = wireValue it len v ∧
      (v < 2 ^ it.w → value < 2 ^ it.w) := by
  obtain ⟨kind, w⟩ := it
  simp only at hlw
  have hl1 : len - 1 < w := by omega
  cases kind
  · exact ⟨v, rfl, rfl, id⟩
  · exact ⟨v, rfl, rfl, id⟩
  · simp only [signFixRev, wireValue, subU_ok cfg h1, shl_one cfg hl1, Res.bind_ok,
      and_two_pow_eq_zero_iff]
    by_cases hb : v.testBit (len - 1) = true
    · simp only [hb, Bool.true_eq_false, if_false, shl_allOnes cfg hl1, Res.bind_ok, if_true,
        notW_mask (Nat.le_of_lt hl1), Nat.and_two_pow_sub_one_eq_mod]
      have hm := Nat.mod_lt (negW w v) (Nat.two_pow_pos (len - 1))
      have e := Nat.two_pow_pred_add_two_pow_pred h1
      have hle : 2 ^ len ≤ 2 ^ w := Nat.pow_le_pow_right (by decide) hlw
      by_cases hz : negW w v % 2 ^ (len - 1) = 0
      · simp only [hz, if_true]
        exact ⟨0, rfl, Nat.zero_mod _, fun _ => Nat.two_pow_pos w⟩
      · simp only [hz, if_false]
        have hor : negW w v % 2 ^ (len - 1) ||| 2 ^ (len - 1)
            = 2 ^ (len - 1) + negW w v % 2 ^ (len - 1) := by
          have := Nat.two_pow_add_eq_or_of_lt hm 1
          rw [Nat.mul_one] at this
          rw [this, Nat.or_comm]
        rw [hor]
        exact ⟨_, rfl, Nat.mod_eq_of_lt (by omega), fun _ => by omega⟩
    · simp only [hb, Bool.false_eq_true, if_false, if_true]
      exact ⟨v, rfl, rfl, id⟩

/-- the carrier values a `len`-bit field of kind `it.kind` can carry -/
def Representable (it : IT) (len v : Nat) : Prop :=
  match it.kind with
  | .u => v < 2 ^ len
  | .i => -((2 ^ (len - 1) : Nat) : Int) ≤ toInt it.w v ∧ toInt it.w v < ((2 ^ (len - 1) : Nat) : Int)
  | .sm => -((2 ^ (len - 1) : Nat) : Int) < toInt it.w v ∧ toInt it.w v < ((2 ^ (len - 1) : Nat) : Int)

theorem testBit_pred_iff {len x : Nat} (h1 : 1 ≤ len) (hx : x < 2 ^ len) :
    x.testBit (len - 1) = true ↔ 2 ^ (len - 1) ≤ x := by
  have hL := Nat.two_pow_pred_add_two_pow_pred h1
  constructor
  · intro h
    rcases Nat.lt_or_ge x (2 ^ (len - 1)) with hlt | hge
    · rw [Nat.testBit_lt_two_pow hlt] at h; cases h
    · exact hge
  · intro h
    rw [show x = 2 ^ (len - 1) + (x - 2 ^ (len - 1)) by omega, Nat.testBit_two_pow_add_eq,
      Nat.testBit_lt_two_pow (by omega)]
    rfl

theorem toInt_bounds {len x : Nat} (h1 : 1 ≤ len) (hx : x < 2 ^ len) :
    -((2 ^ (len - 1) : Nat) : Int) ≤ toInt len x ∧ toInt len x < ((2 ^ (len - 1) : Nat) : Int) := by
  have hL := Nat.two_pow_pred_add_two_pow_pred h1
  unfold toInt
  split <;> omega

theorem two_pow_pred_le {len w : Nat} (h : len ≤ w) : 2 ^ (len - 1) ≤ 2 ^ (w - 1) :=
  Nat.pow_le_pow_right (by decide) (by omega)

theorem toInt_range {w len v : Nat} (h1 : 1 ≤ len) (hlw : len ≤ w) (hv : v < 2 ^ w) :
    (-((2 ^ (len - 1) : Nat) : Int) ≤ toInt w v ∧ toInt w v < ((2 ^ (len - 1) : Nat) : Int))
      ↔ (v < 2 ^ (len - 1) ∨ 2 ^ w - 2 ^ (len - 1) ≤ v) := by
  have hw := Nat.two_pow_pred_add_two_pow_pred (w := w) (by omega)
  have hle := two_pow_pred_le hlw
  unfold toInt
  split <;> omega

theorem wireValue_u (w : Nat) {len v : Nat} (h : v < 2 ^ len) : wireValue ⟨.u, w⟩ len v = v :=
  Nat.mod_eq_of_lt h

theorem wireValue_i_eq (w : Nat) {len v : Nat} (hlw : len ≤ w) :
    ((wireValue ⟨.i, w⟩ len v : Nat) : Int) = toInt w v % ((2 ^ len : Nat) : Int) := by
  simp only [wireValue]
  have e : (2 ^ w : Nat) = 2 ^ len * 2 ^ (w - len) := by rw [← Nat.pow_add]; congr 1; omega
  unfold toInt
  split
  · rw [Int.natCast_emod]
  · rw [e, Int.natCast_mul, Int.sub_mul_emod_self_left, Int.natCast_emod]

theorem wireValue_i (w : Nat) {len : Nat} (v : Nat) (hlw : len ≤ w) :
    wireValue ⟨.i, w⟩ len v = ofInt len (toInt w v) := by
  have := wireValue_i_eq w hlw (v := v)
  unfold ofInt
  omega

/-- `sign_fix` for `I` -/
theorem readValue_i (w : Nat) {len x : Nat} (h1 : 1 ≤ len) (hlw : len ≤ w) (hx : x < 2 ^ len) :
    readValue ⟨.i, w⟩ len x = ofInt w (toInt len x) := by
  have hL := Nat.two_pow_pred_add_two_pow_pred h1
  have hLW : 2 ^ len ≤ 2 ^ w := Nat.pow_le_pow_right (by decide) hlw
  have hb := testBit_pred_iff h1 hx
  simp only [readValue, toInt, ofInt]
  by_cases hw : len = w
  · subst hw
    rw [if_neg (fun h => h.2 rfl)]
    split
    · rw [Int.emod_eq_of_lt (by omega) (by omega)]; omega
    · rw [Int.sub_emod_right, Int.emod_eq_of_lt (by omega) (by omega)]; omega
  · by_cases hbit : x.testBit (len - 1) = true
    · rw [if_pos ⟨hbit, hw⟩, if_neg (by have := hb.1 hbit; omega), ← Int.add_emod_right,
        Int.emod_eq_of_lt (by have := hb.1 hbit; omega) (by omega)]
      omega
    · rw [if_neg (fun h => hbit h.1), if_pos (by rw [hb] at hbit; omega),
        Int.emod_eq_of_lt (by omega) (by omega)]
      omega

theorem toInt_readValue_i (w : Nat) {len x : Nat} (h1 : 1 ≤ len) (hlw : len ≤ w) (hx : x < 2 ^ len) :
    toInt w (readValue ⟨.i, w⟩ len x) = toInt len x := by
  have hb := toInt_bounds h1 hx
  have := two_pow_pred_le hlw
  rw [readValue_i w h1 hlw hx, toInt_ofInt (by omega) (by omega) (by omega)]

/-- the integer a `len`-bit sign-magnitude wire value denotes (`-0` denotes 0) -/
def smInt (len x : Nat) : Int :=
  if 2 ^ (len - 1) ≤ x then -((x - 2 ^ (len - 1) : Nat) : Int) else x

def smWire (len : Nat) (z : Int) : Nat :=
  if z < 0 then 2 ^ (len - 1) + (-z).toNat else z.toNat

theorem smInt_bounds {len x : Nat} (h1 : 1 ≤ len) (hx : x < 2 ^ len) :
    -((2 ^ (len - 1) : Nat) : Int) < smInt len x ∧ smInt len x < ((2 ^ (len - 1) : Nat) : Int) := by
  have hL := Nat.two_pow_pred_add_two_pow_pred h1
  unfold smInt
  split <;> omega

theorem smInt_smWire {len : Nat} {z : Int} (h : z < ((2 ^ (len - 1) : Nat) : Int)) :
    smInt len (smWire len z) = z := by
  unfold smInt smWire
  split <;> split <;> omega

theorem smWire_smInt {len x : Nat} (hx : x ≠ 2 ^ (len - 1)) : smWire len (smInt len x) = x := by
  unfold smInt smWire
  split <;> split <;> omega

theorem smWire_lt {len : Nat} (h1 : 1 ≤ len) {z : Int} (hlo : -((2 ^ (len - 1) : Nat) : Int) < z)
    (hhi : z < ((2 ^ (len - 1) : Nat) : Int)) : smWire len z < 2 ^ len := by
  have hL := Nat.two_pow_pred_add_two_pow_pred h1
  unfold smWire
  split <;> omega

/-- `wrapping_neg` on the carrier -/
theorem negW_eq_ofInt {w p : Nat} (hp : p ≤ 2 ^ w) : negW w p = ofInt w (-(p : Int)) := by
  unfold negW ofInt
  rw [← Int.add_emod_right, show -(p : Int) + ((2 ^ w : Nat) : Int) = ((2 ^ w - p : Nat) : Int) by omega,
    ← Int.natCast_emod, Int.toNat_natCast]

/-- `sign_fix_rev` for `SM`, on the values a field can carry -/
theorem wireValue_sm (w : Nat) {len v : Nat} (h1 : 1 ≤ len) (hlw : len ≤ w) (hv : v < 2 ^ w)
    (hr : Representable ⟨.sm, w⟩ len v) : wireValue ⟨.sm, w⟩ len v = smWire len (toInt w v) := by
  have hL := Nat.two_pow_pred_add_two_pow_pred h1
  have hW := Nat.two_pow_pred_add_two_pow_pred (w := w) (by omega)
  have hle := two_pow_pred_le hlw
  simp only [Representable] at hr
  simp only [wireValue, smWire]
  rcases Nat.lt_or_ge v (2 ^ (w - 1)) with hlt | hge
  · have e3 : toInt w v = v := by unfold toInt; rw [if_pos hlt]
    rw [e3] at hr ⊢
    have h : v < 2 ^ (len - 1) := by omega
    rw [if_neg (by rw [Nat.testBit_lt_two_pow h]; exact Bool.false_ne_true),
      Nat.mod_eq_of_lt (by omega), if_neg (by omega), Int.toNat_natCast]
  · have e4 : toInt w v = (v : Int) - ((2 ^ w : Nat) : Int) := by
      unfold toInt; rw [if_neg (by omega)]
    rw [e4] at hr ⊢
    have e0 : v.testBit (len - 1) = true := by
      have e : v = 2 ^ w - ((2 ^ w - v - 1) + 1) := by omega
      rw [e, Nat.testBit_two_pow_sub_succ (by omega), Nat.testBit_lt_two_pow (by omega)]
      simp; omega
    have e1 : negW w v % 2 ^ (len - 1) = 2 ^ w - v := by
      rw [negW, Nat.mod_eq_of_lt (show 2 ^ w - v < 2 ^ w by omega), Nat.mod_eq_of_lt (by omega)]
    rw [if_pos e0, e1, if_neg (by omega), if_pos (by omega)]
    omega

/-- `sign_fix` for `SM` -/
theorem readValue_sm (w : Nat) {len x : Nat} (h1 : 1 ≤ len) (hlw : len ≤ w) (hx : x < 2 ^ len) :
    readValue ⟨.sm, w⟩ len x = ofInt w (smInt len x) := by
  have hL := Nat.two_pow_pred_add_two_pow_pred h1
  have hLW : 2 ^ len ≤ 2 ^ w := Nat.pow_le_pow_right (by decide) hlw
  have hb := testBit_pred_iff h1 hx
  simp only [readValue, smInt]
  by_cases hbit : x.testBit (len - 1) = true
  · have hge := hb.1 hbit
    rw [if_pos hbit, if_pos hge, Nat.mod_eq_sub_mod hge, Nat.mod_eq_of_lt (by omega),
      negW_eq_ofInt (by omega)]
  · rw [if_neg hbit, if_neg (fun h => hbit (hb.2 h)), ofInt_natCast (by omega)]

theorem toInt_readValue_sm (w : Nat) {len x : Nat} (h1 : 1 ≤ len) (hlw : len ≤ w) (hx : x < 2 ^ len) :
    toInt w (readValue ⟨.sm, w⟩ len x) = smInt len x := by
  have hb := smInt_bounds h1 hx
  have := two_pow_pred_le hlw
  rw [readValue_sm w h1 hlw hx, toInt_ofInt (by omega) (by omega) (by omega)]

theorem readValue_wireValue (it : IT) {len v : Nat} (h1 : 1 ≤ len) (hlw : len ≤ it.w)
    (hv : v < 2 ^ it.w) (hr : Representable it len v) :
    readValue it len (wireValue it len v) = v := by
  obtain ⟨kind, w⟩ := it
  cases kind
  · simp only [Representable] at hr
    simp only [readValue, wireValue, Nat.mod_eq_of_lt hr]
  · rw [wireValue_i w v hlw, readValue_i w h1 hlw (ofInt_lt _ _), toInt_ofInt (by omega) hr.1 hr.2,
      ofInt_toInt hv]
  · rw [wireValue_sm w h1 hlw hv hr, readValue_sm w h1 hlw (smWire_lt h1 hr.1 hr.2),
      smInt_smWire hr.2, ofInt_toInt hv]

theorem readValue_lt (it : IT) {len x : Nat} (h1 : 1 ≤ len) (hlw : len ≤ it.w) (hx : x < 2 ^ len) :
    readValue it len x < 2 ^ it.w := by
  obtain ⟨kind, w⟩ := it
  cases kind
  · exact Nat.lt_of_lt_of_le hx (Nat.pow_le_pow_right (by decide) hlw)
  · rw [readValue_i w h1 hlw hx]; exact ofInt_lt _ _
  · rw [readValue_sm w h1 hlw hx]; exact ofInt_lt _ _

/-- `2 ^ (len - 1)` is the sign-magnitude negative zero -/
theorem wireValue_ne_negZero (it : IT) {len : Nat} (h1 : 1 ≤ len) (v : Nat) (hk : it.kind = .sm) :
    wireValue it len v ≠ 2 ^ (len - 1) := by
  obtain ⟨kind, w⟩ := it
  simp only at hk
  subst hk
  have hL := Nat.two_pow_pred_add_two_pow_pred h1
  have hP := Nat.two_pow_pos (len - 1)
  simp only [wireValue]
  split
  · split <;> omega
  · next hb =>
    intro he
    have : (v % 2 ^ len).testBit (len - 1) = true := by
      rw [he]; exact Nat.testBit_two_pow_self
    rw [Nat.testBit_mod_two_pow] at this
    simp at this
    exact hb this.2

theorem wireValue_readValue (it : IT) {len x : Nat} (h1 : 1 ≤ len) (hlw : len ≤ it.w)
    (hx : x < 2 ^ len) (hnz : it.kind = .sm → x ≠ 2 ^ (len - 1)) :
    wireValue it len (readValue it len x) = x := by
  obtain ⟨kind, w⟩ := it
  cases kind
  · simp only [readValue, wireValue, Nat.mod_eq_of_lt hx]
  · rw [wireValue_i w _ hlw, toInt_readValue_i w h1 hlw hx, ofInt_toInt hx]
  · have hb := smInt_bounds h1 hx
    have ht := toInt_readValue_sm w h1 hlw hx
    rw [wireValue_sm w h1 hlw (readValue_lt ⟨.sm, w⟩ h1 hlw hx) (by rw [Representable, ht]; exact hb),
      ht, smWire_smInt (hnz rfl)]

/-- what the decoder reads is stable under a write / read cycle, also for the sign-magnitude
negative zero (which reads as 0, is written as 0 and reads as 0 again) -/
theorem readValue_idem (it : IT) {len y : Nat} (h1 : 1 ≤ len) (hlw : len ≤ it.w) (hy : y < 2 ^ len) :
    readValue it len (wireValue it len (readValue it len y)) = readValue it len y := by
  by_cases hnz : it.kind = .sm ∧ y = 2 ^ (len - 1)
  · obtain ⟨kind, w⟩ := it
    simp only at hnz hlw
    obtain ⟨rfl, rfl⟩ := hnz
    have e0 : readValue ⟨.sm, w⟩ len (2 ^ (len - 1)) = 0 := by
      rw [readValue_sm w h1 hlw hy, smInt, if_pos (Nat.le_refl _), Nat.sub_self]
      simp [ofInt]
    rw [e0]
    simp [wireValue, readValue]
  · rw [wireValue_readValue it h1 hlw hy (fun hk he => hnz ⟨hk, he⟩)]

end Rtcm.Bits
