import Rtcm.Proofs.Bits
import Rtcm.Proofs.Layout
/-!
What Proofs/Bits says of the bit packer, lifted to cursors: first for one field (`putF_law`), then for a
layout (`Layout.putAll_cases`), so that "write a, write b, …, then read a, read b, …" is one
statement.

`Written c c' P`: `P` holds of every buffer of the same length that carries the bits written between
`c` and `c'`.  A law reads
`Ext c c' ∧ c'.off = … ∧ Written c c' fun D => reader ⟨D, c.off⟩ = .ok (v, ⟨D, c'.off⟩)`: the value
is promised in ANY such buffer, and that is what lets laws compose, since a buffer that agrees with
the final one on `[c.off, c2.off)` agrees with the intermediate one on `[c.off, c1.off)`
(`Ext.agree_left`: later writes do not touch earlier bits).
-/
namespace Rtcm.CurLaws
open Rtcm.Bits Rtcm.Text

def Good (c : Cur) : Prop := ∀ d ∈ c.data, d < 256

def AgreeOn (D E : List Nat) (lo hi : Nat) : Prop :=
  ∀ g, lo ≤ g → g < hi → bitAt D g = bitAt E g

theorem AgreeOn.mono {D E : List Nat} {lo hi lo' hi' : Nat} (h : AgreeOn D E lo hi)
    (h1 : lo ≤ lo') (h2 : hi' ≤ hi) : AgreeOn D E lo' hi' :=
  fun g a b => h g (Nat.le_trans h1 a) (Nat.lt_of_lt_of_le b h2)

structure Ext (c c' : Cur) : Prop where
  good : Good c'
  len : c'.data.length = c.data.length
  le : c.off ≤ c'.off
  fit : c'.off ≤ 8 * c'.data.length
  keep : ∀ g, g < c.off ∨ c'.off ≤ g → bitAt c'.data g = bitAt c.data g

theorem Ext.refl {c : Cur} (hg : Good c) (hfit : c.off ≤ 8 * c.data.length) : Ext c c :=
  ⟨hg, rfl, Nat.le_refl _, hfit, fun _ _ => rfl⟩

theorem Ext.trans {a b c : Cur} (h1 : Ext a b) (h2 : Ext b c) : Ext a c where
  good := h2.good
  len := h2.len.trans h1.len
  le := Nat.le_trans h1.le h2.le
  fit := h2.fit
  keep g hg := by
    have l1 := h1.le
    have l2 := h2.le
    rw [h2.keep g (by omega), h1.keep g (by omega)]

theorem Ext.agree_left {c1 c2 : Cur} (h : Ext c1 c2) {D : List Nat} {lo : Nat}
    (ha : AgreeOn D c2.data lo c2.off) : AgreeOn D c1.data lo c1.off := by
  intro g hlo hhi
  rw [ha g hlo (Nat.lt_of_lt_of_le hhi h.le), h.keep g (Or.inl hhi)]

theorem Ext.agree_right {c1 c2 : Cur} (_h : Ext c1 c2) {D : List Nat} {lo : Nat}
    (ha : AgreeOn D c2.data lo c2.off) (hlo : lo ≤ c1.off) : AgreeOn D c2.data c1.off c2.off :=
  ha.mono hlo (Nat.le_refl _)

def Written (c c' : Cur) (P : List Nat → Prop) : Prop :=
  ∀ D, D.length = c'.data.length → AgreeOn D c'.data c.off c'.off → P D

theorem Written.self {c c' : Cur} {P : List Nat → Prop} (h : Written c c' P) : P c'.data :=
  h c'.data rfl fun _ _ _ => rfl

theorem Written.seq {c c1 c2 : Cur} {P Q : List Nat → Prop} (e1 : Ext c c1) (e2 : Ext c1 c2)
    (h1 : Written c c1 P) (h2 : Written c1 c2 Q) : Written c c2 fun D => P D ∧ Q D :=
  fun D hD ha => ⟨h1 D (hD.trans e2.len) (e2.agree_left ha), h2 D hD (e2.agree_right ha e1.le)⟩

def parseF (cfg : Cfg) (it : IT) (len : Nat) (c : Cur) : Res (Nat × Cur) :=
  match Bits.parse cfg it c.data c.off len with
  | .ok (v, o) => .ok (v, { c with off := o })
  | .err e => .err e
  | .panic p => .panic p

theorem parseU_eq (cfg : Cfg) (w len : Nat) (c : Cur) : parseU cfg w len c = parseF cfg ⟨.u, w⟩ len c := rfl

theorem parseI16_eq (cfg : Cfg) (len : Nat) (c : Cur) :
    Bias.parseI16 cfg len c = parseF cfg ⟨.i, 16⟩ len c >>= fun (v, c') => .ok (toInt 16 v, c') := by
  unfold Bias.parseI16 parseF
  cases parse cfg ⟨.i, 16⟩ c.data c.off len <;> rfl

section
variable (cfg : Cfg) (it : IT) {len : Nat} (hW : Bits.Widths it.w len)
include hW

theorem putF_cases {c : Cur} {v : Nat} (hg : Good c) (hv : v < 2 ^ it.w) :
    (c.off + len ≤ 8 * c.data.length ∧ ∃ c', putF cfg it v len c = .ok c' ∧
        c'.off = c.off + len ∧ Ext c c' ∧ fieldValue c'.data c.off len = wireValue it len v) ∨
    (8 * c.data.length < c.off + len ∧ putF cfg it v len c = .err .bufferOverflow) := by
  by_cases hfit : c.off + len ≤ 8 * c.data.length
  · left
    refine ⟨hfit, ?_⟩
    obtain ⟨d', hput, hbits⟩ := Bits.put_ok cfg it c.data c.off v len hW hfit
    have hl := Bits.put_length hput
    refine ⟨⟨d', c.off + len⟩, by rw [putF, hput], rfl,
      ⟨Bits.put_bytes hput hg, hl, Nat.le_add_right _ _, by rw [hl]; exact hfit, ?_⟩, ?_⟩
    · intro g hgo
      rw [hbits g hv, if_neg]
      simp only at hgo
      omega
    · exact fieldValue_put cfg it c.data c.off v len hW hfit hv hput
  · right
    refine ⟨by omega, ?_⟩
    rw [putF, Bits.put_overflow cfg it c.data c.off v len (by omega)]

theorem parseF_at (D : List Nat) (o : Nat) (hfit : o + len ≤ 8 * D.length) :
    parseF cfg it len ⟨D, o⟩ = .ok (readValue it len (fieldValue D o len), ⟨D, o + len⟩) := by
  rw [parseF, Bits.parse_ok cfg it D o len hW.w64 hW.pos hW.le hfit]

omit hW in
theorem parseF_overflow (D : List Nat) (o : Nat) (hfit : 8 * D.length < o + len) :
    parseF cfg it len ⟨D, o⟩ = .err .bufferOverflow := by
  rw [parseF, Bits.parse_overflow cfg it D o len (by omega)]

theorem putF_law {c c' : Cur} {v : Nat} (hg : Good c) (hv : v < 2 ^ it.w)
    (h : putF cfg it v len c = .ok c') :
    Ext c c' ∧ c'.off = c.off + len ∧
    Written c c' fun D =>
      parseF cfg it len ⟨D, c.off⟩ = .ok (readValue it len (wireValue it len v), ⟨D, c'.off⟩) := by
  rcases putF_cases cfg it hW hg hv with ⟨_, c'', h', hoff, hext, hfv⟩ | ⟨_, h'⟩
  · rw [h] at h'
    cases h'
    refine ⟨hext, hoff, ?_⟩
    intro D hD ha
    have hfit := hext.fit
    rw [parseF_at cfg it hW D c.off (by omega),
      fieldValue_ext (E := c'.data) (by rw [← hoff]; exact ha), hfv, hoff]
  · rw [h] at h'
    cases h'

end

theorem readValue_wireValue_u (w len v : Nat) (hv : v < 2 ^ len) :
    readValue ⟨.u, w⟩ len (wireValue ⟨.u, w⟩ len v) = v := by
  simp [readValue, wireValue, Nat.mod_eq_of_lt hv]

theorem putU_law (cfg : Cfg) {w len : Nat} {c c' : Cur} {v : Nat} (hg : Good c) (hv : v < 2 ^ len)
    (h : putU cfg w v len c = .ok c') (hW : Bits.Widths w len := by decide) :
    Ext c c' ∧ c'.off = c.off + len ∧
    Written c c' fun D =>
      parseU cfg w len ⟨D, c.off⟩ = .ok (v, ⟨D, c'.off⟩) := by
  have := putF_law cfg ⟨.u, w⟩ hW hg (Nat.lt_of_lt_of_le hv (Nat.pow_le_pow_right (by decide) hW.le)) h
  rwa [readValue_wireValue_u w len v hv] at this

end Rtcm.CurLaws

namespace Rtcm.Layout
open Rtcm.Bits Rtcm.CurLaws

/-- the value is one the carrier type holds (what the Rust type guarantees) -/
def Item.Lt : Item → Prop
  | .fld it _ v => v < 2 ^ it.w
  | .fail _ => True

def Item.Ok (i : Item) : Prop := i.Wf ∧ i.Lt

def Reads (cfg : Cfg) (D : List Nat) : Nat → List Item → Prop
  | _, [] => True
  | o, .fld it len v :: r =>
    parseF cfg it len ⟨D, o⟩ = .ok (readValue it len (wireValue it len v), ⟨D, o + len⟩) ∧
      Reads cfg D (o + len) r
  | _, .fail _ :: _ => False

theorem Reads.append {cfg : Cfg} {D : List Nat} : ∀ {a b : List Item} {o : Nat},
    Reads cfg D o (a ++ b) → Reads cfg D o a ∧ Reads cfg D (o + bits a) b
  | [], _, _, h => ⟨trivial, h⟩
  | .fld _ len _ :: a, b, o, h => by
    obtain ⟨h1, h2⟩ := Reads.append (a := a) h.2
    exact ⟨⟨h.1, h1⟩, by rw [bits, ← Nat.add_assoc]; exact h2⟩
  | .fail _ :: _, _, _, h => h.elim

-- only the empty layout needs the cursor inside the buffer; otherwise the first field decides
theorem putAll_cases (cfg : Cfg) : ∀ (is : List Item) (c : Cur), Good c →
    (is = [] → c.off ≤ 8 * c.data.length) → (∀ i ∈ is, i.Ok) →
    (∃ c', putAll cfg is c = .ok c' ∧ c'.off = c.off + bits is ∧ Ext c c' ∧
      Written c c' fun D => Reads cfg D c.off is) ∨
    (∃ e, .fail e ∈ is ∧ putAll cfg is c = .err e) ∨
    (8 * c.data.length < c.off + bits is ∧ putAll cfg is c = .err .bufferOverflow)
  | [], c, hg, hfit, _ => Or.inl ⟨c, rfl, rfl, Ext.refl hg (hfit rfl), fun _ _ _ => trivial⟩
  | .fail e :: r, c, _, _, _ => Or.inr (Or.inl ⟨e, List.mem_cons_self .., rfl⟩)
  | .fld it len v :: r, c, hg, hfit, hok => by
    obtain ⟨hW, hv⟩ := hok _ (List.mem_cons_self ..)
    simp only [putAll, bits]
    rcases putF_cases cfg it hW hg hv with ⟨_, c1, hp, _⟩ | ⟨hno, hp⟩
    · obtain ⟨e1, o1, r1⟩ := putF_law cfg it hW hg hv hp
      rw [hp]
      rcases putAll_cases cfg r c1 e1.good (fun _ => e1.fit) (fun i hi => hok i (List.mem_cons_of_mem _ hi))
        with ⟨c', h2, o2, e2, r2⟩ | ⟨e, he, h2⟩ | ⟨hno, h2⟩
      · have hw := Written.seq e1 e2 r1 r2
        rw [o1] at hw
        exact Or.inl ⟨c', h2, by omega, e1.trans e2, hw⟩
      · exact Or.inr (Or.inl ⟨e, List.mem_cons_of_mem _ he, h2⟩)
      · exact Or.inr (Or.inr ⟨by rw [e1.len, o1] at hno; omega, h2⟩)
    · rw [hp]
      exact Or.inr (Or.inr ⟨by omega, rfl⟩)

section
variable {cfg : Cfg} {is : List Item} {c : Cur} (hg : Good c) (hok : ∀ i ∈ is, i.Ok)
include hg hok

theorem putAll_law {c' : Cur} (hne : is ≠ []) (h : putAll cfg is c = .ok c') :
    Ext c c' ∧ c'.off = c.off + bits is ∧
    Written c c' fun D => Reads cfg D c.off is := by
  rcases putAll_cases cfg is c hg (fun e => absurd e hne) hok with
    ⟨c'', h', o, e, r⟩ | ⟨_, _, h'⟩ | ⟨_, h'⟩
  · cases h.symm.trans h'
    exact ⟨e, o, r⟩
  · cases h.symm.trans h'
  · cases h.symm.trans h'

theorem putAll_total :
    (∃ c', putAll cfg is c = .ok c') ∨ (∃ e, .fail e ∈ is ∧ putAll cfg is c = .err e) ∨
      putAll cfg is c = .err .bufferOverflow := by
  by_cases hne : is = []
  · exact Or.inl ⟨c, hne ▸ rfl⟩
  · rcases putAll_cases cfg is c hg (fun e => absurd e hne) hok with ⟨c', h, _⟩ | h | ⟨_, h⟩
    · exact Or.inl ⟨c', h⟩
    · exact Or.inr (Or.inl h)
    · exact Or.inr (Or.inr h)

theorem putAll_room (hroom : c.off + bits is ≤ 8 * c.data.length) (hbad : ∃ e, .fail e ∈ is) :
    ∃ e, .fail e ∈ is ∧ putAll cfg is c = .err e := by
  rcases putAll_cases cfg is c hg (fun _ => by omega) hok with ⟨c', h, _⟩ | h | ⟨hno, _⟩
  · obtain ⟨e, he⟩ := hbad
    exact absurd he (putAll_ok_noFail cfg is c c' h e)
  · exact h
  · omega

theorem putAll_fits (hroom : c.off + bits is ≤ 8 * c.data.length) (hnf : ∀ e, .fail e ∉ is) :
    ∃ c', putAll cfg is c = .ok c' := by
  rcases putAll_cases cfg is c hg (fun _ => by omega) hok with ⟨c', h, _⟩ | ⟨e, he, _⟩ | ⟨hno, _⟩
  · exact ⟨c', h⟩
  · exact absurd he (hnf e)
  · omega

end

def Item.wire : Item → Item
  | .fld it len v => .fld it len (wireValue it len v)
  | .fail e => .fail e

theorem putF_congr (cfg : Cfg) (it : IT) {len : Nat} (hW : Bits.Widths it.w len) {c : Cur}
    (hg : Good c) {p q : Nat} (hp : p < 2 ^ it.w) (hq : q < 2 ^ it.w)
    (hwv : wireValue it len p = wireValue it len q) :
    putF cfg it p len c = putF cfg it q len c := by
  unfold putF
  by_cases hfit : c.off + len ≤ 8 * c.data.length
  · obtain ⟨d1, e1, s1⟩ := Bits.put_ok cfg it c.data c.off p len hW hfit
    obtain ⟨d2, e2, s2⟩ := Bits.put_ok cfg it c.data c.off q len hW hfit
    have : d1 = d2 := by
      apply bytes_ext (by rw [Bits.put_length e1, Bits.put_length e2]) (Bits.put_bytes e1 hg)
        (Bits.put_bytes e2 hg)
      intro g
      rw [s1 g hp, s2 g hq]
      unfold wireBit
      rw [hwv]
    rw [e1, e2, this]
  · rw [Bits.put_overflow cfg it c.data c.off p len (by omega),
      Bits.put_overflow cfg it c.data c.off q len (by omega)]

theorem putAll_congr (cfg : Cfg) : ∀ (is is' : List Item) (c : Cur), Good c →
    (∀ i ∈ is, i.Ok) → (∀ i ∈ is', i.Ok) → is.map Item.wire = is'.map Item.wire →
    putAll cfg is c = putAll cfg is' c
  | [], [], _, _, _, _, _ => rfl
  | [], _ :: _, _, _, _, _, h => by cases h
  | _ :: _, [], _, _, _, _, h => by cases h
  | .fail _ :: _, .fld .. :: _, _, _, _, _, h => by cases h
  | .fld .. :: _, .fail _ :: _, _, _, _, _, h => by cases h
  | .fail e :: _, .fail e' :: _, _, _, _, _, h => by
    simp only [List.map_cons, Item.wire, List.cons.injEq, Item.fail.injEq] at h
    rw [h.1]; rfl
  | .fld it len v :: r, .fld it' len' v' :: r', c, hg, hok, hok', h => by
    simp only [List.map_cons, Item.wire, List.cons.injEq, Item.fld.injEq] at h
    obtain ⟨⟨rfl, rfl, hwv⟩, hr⟩ := h
    obtain ⟨hW, hv⟩ := hok _ (List.mem_cons_self ..)
    obtain ⟨_, hv'⟩ := hok' _ (List.mem_cons_self ..)
    simp only [putAll]
    rw [← putF_congr cfg it hW hg hv hv' hwv]
    rcases putF_cases cfg it hW hg hv with ⟨_, c1, hp, _, e1, _⟩ | ⟨_, hp⟩
    · rw [hp]
      exact putAll_congr cfg r r' c1 e1.good (fun i hi => hok i (List.mem_cons_of_mem _ hi))
        (fun i hi => hok' i (List.mem_cons_of_mem _ hi)) hr
    · rw [hp]; rfl

end Rtcm.Layout
