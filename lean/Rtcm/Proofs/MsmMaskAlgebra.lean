import Rtcm.Model.Msm
import Mathlib.Data.List.Sort
/-!
The notion everything is reduced to is the decoder's `maskIds B m`: the identifiers `1..=B` whose bit is
set in `m`, ascending. `popcount` is its length, the encoder's `rankOf` is `rankIn (maskIds B m)`, and the
mask the encoder builds from a list of identifiers (`idMask`) has exactly those identifiers. The cell
numbering is injective, with what `cell_mask_id_vec` computes as left inverse.
-/
namespace Rtcm.MsmLaws
open Rtcm.Msm

theorem filter_lt_range {n B : Nat} (h : n ≤ B) : (List.range B).filter (· < n) = List.range n := by
  obtain ⟨k, rfl⟩ := Nat.exists_eq_add_of_le h
  rw [List.range_add, List.filter_append,
    List.filter_eq_self.mpr fun a ha => decide_eq_true (List.mem_range.mp ha),
    List.filter_eq_nil_iff.mpr fun a ha => by
      obtain ⟨i, -, rfl⟩ := List.mem_map.mp ha
      rw [decide_eq_true_eq]; omega,
    List.append_nil]

/-- what each mask loop of the encoder accumulates -/
def orF {γ} (f : γ → Nat) (l : List γ) (m : Nat) : Nat := l.foldl (fun m c => m ||| 2 ^ f c) m

@[simp] theorem orF_nil {γ} (f : γ → Nat) (m : Nat) : orF f [] m = m := rfl
@[simp] theorem orF_cons {γ} (f : γ → Nat) (c : γ) (l : List γ) (m : Nat) :
    orF f (c :: l) m = orF f l (m ||| 2 ^ f c) := rfl

theorem testBit_orF {γ} (f : γ → Nat) (l : List γ) (m k : Nat) :
    (orF f l m).testBit k = true ↔ (m.testBit k = true ∨ ∃ c ∈ l, f c = k) := by
  induction l generalizing m with
  | nil => simp only [orF_nil, List.not_mem_nil, false_and, exists_false, or_false]
  | cons c l ih =>
    rw [orF_cons, ih, Nat.testBit_or, Nat.testBit_two_pow]
    simp only [Bool.or_eq_true, decide_eq_true_eq, List.mem_cons, exists_eq_or_imp]
    tauto

theorem orF_congr_mem {γ} (f : γ → Nat) (l l' : List γ) (m : Nat) (h : ∀ c, c ∈ l ↔ c ∈ l') :
    orF f l m = orF f l' m := by
  apply Nat.eq_of_testBit_eq
  intro k
  rw [Bool.eq_iff_iff, testBit_orF, testBit_orF]
  simp only [h]

theorem orF_map {γ δ} (g : γ → δ) (f : δ → Nat) (l : List γ) (m : Nat) :
    orF f (l.map g) m = orF (fun c => f (g c)) l m := by
  induction l generalizing m with
  | nil => rfl
  | cons c l ih => rw [List.map_cons, orF_cons, orF_cons, ih]

theorem orF_lt {γ} (f : γ → Nat) (l : List γ) (m n : Nat) (hm : m < 2 ^ n) (hf : ∀ c ∈ l, f c < n) :
    orF f l m < 2 ^ n := by
  apply Nat.lt_pow_two_of_testBit
  intro i hi
  cases hb : (orF f l m).testBit i with
  | false => rfl
  | true =>
    rw [testBit_orF] at hb
    rcases hb with hb | ⟨c, hc, rfl⟩
    · have := Nat.testBit_lt_two_pow (Nat.lt_of_lt_of_le hm (Nat.pow_le_pow_right (by omega) hi))
      rw [this] at hb
      cases hb
    · have := hf c hc; omega

/-- `1 << (B - id)` OR-ed over the identifiers: `sat_mask`, `sig_mask` and `sat_sig_mask` of
`msm_data_seg_frag!::encode` -/
def idMask (B : Nat) (ids : List Nat) : Nat := orF (B - ·) ids 0

/-- identifiers that have a bit in a mask of `B` bits (the encoder's `id > 0 && id <= 64`) -/
def IdsIn (B : Nat) (ids : List Nat) : Prop := ∀ s ∈ ids, 1 ≤ s ∧ s ≤ B

theorem testBit_idMask {B : Nat} {ids : List Nat} (hr : IdsIn B ids) {s : Nat} (h2 : s ≤ B) :
    (idMask B ids).testBit (B - s) = true ↔ s ∈ ids := by
  unfold idMask
  rw [testBit_orF]
  simp only [Nat.zero_testBit, Bool.false_eq_true, false_or]
  constructor
  · rintro ⟨c, hc, e⟩
    have := hr c hc
    rwa [show s = c by omega]
  · exact fun h => ⟨s, h, rfl⟩

theorem idMask_lt {B : Nat} {ids : List Nat} (hr : IdsIn B ids) : idMask B ids < 2 ^ B :=
  orF_lt _ _ _ _ (Nat.two_pow_pos B) fun c hc => by have := hr c hc; omega

theorem mem_maskIds (bits m s : Nat) :
    s ∈ maskIds bits m ↔ 1 ≤ s ∧ s ≤ bits ∧ m.testBit (bits - s) = true := by
  unfold maskIds
  simp only [List.mem_map, List.mem_filter, List.mem_range]
  constructor
  · rintro ⟨i, ⟨hi, hb⟩, rfl⟩
    exact ⟨by omega, by omega, by rwa [show bits - (i + 1) = bits - 1 - i by omega]⟩
  · rintro ⟨h1, h2, hb⟩
    exact ⟨s - 1, ⟨by omega, by rwa [show bits - 1 - (s - 1) = bits - s by omega]⟩, by omega⟩

theorem maskIds_sorted (bits m : Nat) : (maskIds bits m).Pairwise (· < ·) := by
  unfold maskIds
  rw [List.pairwise_map]
  apply (List.Pairwise.filter _ List.pairwise_lt_range).imp
  intro a b h; omega

theorem maskIds_length (bits m : Nat) : (maskIds bits m).length = popcount bits m := by
  unfold popcount maskIds
  rw [List.length_map, ← List.countP_eq_length_filter, ← List.countP_eq_length_filter]
  -- `popcount` tests bit `i`, `maskIds` bit `bits - 1 - i`, for `i < bits`: the same count, since the
  -- reversed range is the range mapped by `i ↦ bits - 1 - i`
  conv_rhs => rw [← List.countP_reverse, List.range_eq_range', List.reverse_range', List.countP_map]
  simp only [Nat.zero_add]
  rfl

theorem mem_maskIds_idMask {B : Nat} {ids : List Nat} (hr : IdsIn B ids) (s : Nat) :
    s ∈ maskIds B (idMask B ids) ↔ s ∈ ids := by
  rw [mem_maskIds]
  constructor
  · rintro ⟨h1, h2, hb⟩; exact (testBit_idMask hr h2).mp hb
  · intro hs; exact ⟨(hr s hs).1, (hr s hs).2, (testBit_idMask hr (hr s hs).2).mpr hs⟩

theorem maskIds_idMask {B : Nat} {ids L : List Nat} (hr : IdsIn B ids) (hL : L.Pairwise (· < ·))
    (hm : ∀ s, s ∈ L ↔ s ∈ ids) : maskIds B (idMask B ids) = L :=
  (maskIds_sorted _ _).eq_of_mem_iff hL fun s => by rw [mem_maskIds_idMask hr, hm]

theorem idMask_eq_iff {B : Nat} {ids ids' : List Nat} (hr : IdsIn B ids) (hr' : IdsIn B ids') :
    idMask B ids = idMask B ids' ↔ ∀ s, s ∈ ids ↔ s ∈ ids' :=
  ⟨fun e s => by rw [← mem_maskIds_idMask hr, e, mem_maskIds_idMask hr'], orF_congr_mem _ _ _ _⟩

/-- what `sat_indx[x - 1]`, `sig_indx[x - 1]` hold when `ids` are the identifiers of the mask
(`rankOf_eq`) -/
def rankIn (ids : List Nat) (x : Nat) : Nat := (ids.filter (· < x)).length

theorem rankOf_eq (B m x : Nat) (hx : x ≤ B + 1) : rankOf B m x = rankIn (maskIds B m) x := by
  unfold rankOf rankIn maskIds
  -- both count positions `i` with bit `B - 1 - i` set: `rankOf` over `i < x - 1`, `rankIn` over `i < B`
  -- with `i + 1 < x`; write the first range as the second filtered by `i < x - 1`
  rw [List.filter_map, List.length_map, List.filter_filter, ← filter_lt_range (show x - 1 ≤ B by omega),
    List.filter_filter]
  congr 1
  apply List.filter_congr
  intro i _
  have : i < x - 1 ↔ i + 1 < x := by omega
  rw [Bool.and_comm, Function.comp_apply, decide_eq_decide.mpr this]

theorem rankIn_perm {l l' : List Nat} (h : l.Perm l') (x : Nat) : rankIn l x = rankIn l' x :=
  (h.filter _).length_eq

theorem rankIn_mid {pre post : List Nat} {x : Nat} (h : (pre ++ x :: post).Pairwise (· < ·)) :
    rankIn (pre ++ x :: post) x = pre.length := by
  rw [List.pairwise_append, List.pairwise_cons] at h
  rw [rankIn, List.filter_append, List.filter_cons_of_neg (by rw [decide_eq_true_eq]; exact Nat.lt_irrefl x),
    List.filter_eq_self.mpr fun a ha => decide_eq_true (h.2.2 a ha x (.head _)),
    List.filter_eq_nil_iff.mpr fun a ha => by have := h.2.1.1 a ha; rw [decide_eq_true_eq]; omega,
    List.append_nil]

theorem rankIn_lt_length {l : List Nat} (h : l.Pairwise (· < ·)) {x : Nat} (hx : x ∈ l) :
    rankIn l x < l.length := by
  obtain ⟨s, t, rfl⟩ := List.append_of_mem hx
  rw [rankIn_mid h, List.length_append, List.length_cons]
  omega

theorem getD_rankIn {l : List Nat} (h : l.Pairwise (· < ·)) {x : Nat} (hx : x ∈ l) :
    l.getD (rankIn l x) 0 = x := by
  obtain ⟨s, t, rfl⟩ := List.append_of_mem hx
  rw [rankIn_mid h, List.getD_eq_getElem?_getD, List.getElem?_append_right (Nat.le_refl _), Nat.sub_self]
  rfl

/-- `cell_indx` of the encoder -/
def cellIdx (S G : List Nat) (c : Nat × Nat) : Nat := rankIn S c.1 * G.length + rankIn G c.2

/-- the cell `cell_mask_id_vec` produces at index `idx` -/
def cellAt (S G : List Nat) (idx : Nat) : Nat × Nat := (S.getD (idx / G.length) 0, G.getD (idx % G.length) 0)

section grid
variable {S G : List Nat} (hS : S.Pairwise (· < ·)) (hG : G.Pairwise (· < ·)) {c : Nat × Nat}
  (h1 : c.1 ∈ S) (h2 : c.2 ∈ G)
include hS hG h1 h2

theorem cellIdx_lt : cellIdx S G c < S.length * G.length := by
  have a := rankIn_lt_length hS h1
  have b := rankIn_lt_length hG h2
  calc cellIdx S G c < (rankIn S c.1 + 1) * G.length := by unfold cellIdx; rw [Nat.add_mul]; omega
    _ ≤ S.length * G.length := Nat.mul_le_mul_right _ a

theorem cellAt_cellIdx : cellAt S G (cellIdx S G c) = c := by
  have b := rankIn_lt_length hG h2
  unfold cellAt cellIdx
  rw [Nat.add_comm, Nat.add_mul_div_right _ _ (by omega), Nat.add_mul_mod_self_right, Nat.div_eq_of_lt b,
    Nat.mod_eq_of_lt b, Nat.zero_add, getD_rankIn hS h1, getD_rankIn hG h2]

end grid

theorem cellIdx_inj {S G : List Nat} (hS : S.Pairwise (· < ·)) (hG : G.Pairwise (· < ·)) {c c' : Nat × Nat}
    (h1 : c.1 ∈ S) (h2 : c.2 ∈ G) (h1' : c'.1 ∈ S) (h2' : c'.2 ∈ G)
    (e : cellIdx S G c = cellIdx S G c') : c = c' := by
  rw [← cellAt_cellIdx hS hG h1 h2, e, cellAt_cellIdx hS hG h1' h2']

end Rtcm.MsmLaws
