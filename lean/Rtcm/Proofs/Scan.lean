import Rtcm.Model.Scan
import Rtcm.Proofs.Frame
/-!
The scanner seen through dead positions: `scan` skips a dead prefix (`scan_skip`) and then does what
`frameNew` says of the candidate it stops at (`scan_cases`); everything else about one call follows
from these two.
-/
namespace Rtcm

/-- Position `j` of `d` cannot begin a deliverable or pending frame: it is not a preamble byte,
or the candidate starting there is complete and rejected. -/
def DeadAt (d : List UInt8) (j : Nat) : Prop :=
  d.getD j 0 ≠ 0xd3 ∨ frameNew (d.drop j) = .error .notValid

theorem deadAt_cons_succ (b : UInt8) (rest : List UInt8) (j : Nat) :
    DeadAt (b :: rest) (j + 1) ↔ DeadAt rest j := by
  simp [DeadAt]

theorem getD_zero_of_byteAt {d : List UInt8} (h : byteAt d 0 = 0xd3) : d.getD 0 0 = 0xd3 :=
  UInt8.toNat_inj.mp h

theorem DeadAt.append {d : List UInt8} {j : Nat} (h : DeadAt d j) (hj : j < d.length)
    (e : List UInt8) : DeadAt (d ++ e) j := by
  unfold DeadAt at *
  rw [List.drop_append_of_le_length (by omega), List.getD_eq_getElem?_getD,
    List.getElem?_append_left hj, ← List.getD_eq_getElem?_getD]
  exact h.imp id (frameNew_append_notValid _ e)

theorem DeadAt.not_ok {d : List UInt8} {j : Nat} (h : DeadAt d j) (f : Frame) :
    frameNew (d.drop j) ≠ .ok f := by
  intro hok
  rcases h with h | h
  · apply h
    simpa [List.getD_eq_getElem?_getD] using getD_zero_of_byteAt ((frameNew_ok_iff _ _).mp hok).2.1
  · rw [hok] at h; cases h

theorem scan_cons_dead (b : UInt8) (rest : List UInt8) (h : DeadAt (b :: rest) 0) :
    scan (b :: rest) = ((scan rest).1 + 1, (scan rest).2) := by
  rw [scan]
  rcases h with h | h
  · rw [if_neg (by simpa using h)]
  · rw [List.drop_zero] at h
    split
    · rw [h]
    · rfl

theorem scan_ok (d : List UInt8) (f : Frame) (h : frameNew d = .ok f) :
    scan d = (f.frameLen, some f) := by
  have h0 := getD_zero_of_byteAt ((frameNew_ok_iff d f).mp h).2.1
  cases d with
  | nil => cases h
  | cons b rest => rw [scan, if_pos (by simpa using h0), h]

theorem scan_incomplete (d : List UInt8) (h0 : d.getD 0 0 = 0xd3)
    (h : frameNew d = .error .incomplete) : scan d = (0, none) := by
  cases d with
  | nil => rfl
  | cons b rest => rw [scan, if_pos (by simpa using h0), h]

theorem scan_skip (d : List UInt8) (c : Nat) (hc : c ≤ d.length) (h : ∀ j, j < c → DeadAt d j) :
    scan d = ((scan (d.drop c)).1 + c, (scan (d.drop c)).2) := by
  induction c generalizing d with
  | zero => rfl
  | succ c ih =>
    cases d with
    | nil => simp at hc
    | cons b rest =>
      rw [scan_cons_dead b rest (h 0 (by omega)), ih rest (by simpa using hc)
        (fun j hj => (deadAt_cons_succ b rest j).mp (h (j + 1) (by omega)))]
      rfl

theorem exists_dead_prefix (d : List UInt8) :
    ∃ i, i ≤ d.length ∧ (∀ j, j < i → DeadAt d j) ∧ (i < d.length → ¬ DeadAt d i) := by
  induction d with
  | nil => exact ⟨0, Nat.le_refl _, fun j hj => by omega, fun h => by simp at h⟩
  | cons b rest ih =>
    by_cases h0 : DeadAt (b :: rest) 0
    · obtain ⟨i, hi, hd, hl⟩ := ih
      refine ⟨i + 1, by simpa using hi, fun j hj => ?_, fun h => ?_⟩
      · cases j with
        | zero => exact h0
        | succ j => exact (deadAt_cons_succ b rest j).mpr (hd j (by omega))
      · rw [deadAt_cons_succ]; exact hl (by simpa using h)
    · exact ⟨0, by simp, fun j hj => by omega, fun _ => h0⟩

theorem scan_cases (d : List UInt8) :
    ∃ i, i ≤ d.length ∧ (∀ j, j < i → DeadAt d j) ∧
      ((∃ f, i < d.length ∧ d.getD i 0 = 0xd3 ∧ frameNew (d.drop i) = .ok f ∧
          scan d = (i + f.frameLen, some f)) ∨
       ((i = d.length ∨ (d.getD i 0 = 0xd3 ∧ frameNew (d.drop i) = .error .incomplete)) ∧
          scan d = (i, none))) := by
  obtain ⟨i, hi, hd, hl⟩ := exists_dead_prefix d
  refine ⟨i, hi, hd, ?_⟩
  rw [scan_skip d i hi hd]
  by_cases hlt : i < d.length
  · have hl := hl hlt
    unfold DeadAt at hl
    rw [not_or, Decidable.not_not] at hl
    rcases hf : frameNew (d.drop i) with e | f
    · cases e with
      | incomplete =>
        rw [scan_incomplete _ (by simpa [List.getD_eq_getElem?_getD] using hl.1) hf]
        exact Or.inr ⟨Or.inr ⟨hl.1, rfl⟩, by simp⟩
      | notValid => exact absurd hf hl.2
    · rw [scan_ok _ f hf]; exact Or.inl ⟨f, hlt, hl.1, rfl, by simp [Nat.add_comm]⟩
  · have : i = d.length := by omega
    subst this
    rw [List.drop_length]
    exact Or.inr ⟨Or.inl rfl, by simp [scan]⟩

theorem scan_some (d : List UInt8) (c : Nat) (f : Frame) (h : scan d = (c, some f)) :
    ∃ i, i < d.length ∧ d.getD i 0 = 0xd3 ∧ frameNew (d.drop i) = .ok f ∧ c = i + f.frameLen ∧
      ∀ j, j < i → DeadAt d j := by
  obtain ⟨i, _, hd, ⟨f', hi, h0, hok, hs⟩ | ⟨_, hs⟩⟩ := scan_cases d
  · rw [hs] at h; cases h; exact ⟨i, hi, h0, hok, rfl, hd⟩
  · rw [hs] at h; cases h

theorem scan_none (d : List UInt8) (c : Nat) (h : scan d = (c, none)) :
    c ≤ d.length ∧ (∀ j, j < c → DeadAt d j) ∧
      (c = d.length ∨ (d.getD c 0 = 0xd3 ∧ frameNew (d.drop c) = .error .incomplete)) := by
  obtain ⟨i, hi, hd, ⟨f', _, _, _, hs⟩ | ⟨he, hs⟩⟩ := scan_cases d
  · rw [hs] at h; cases h
  · rw [hs] at h; cases h; exact ⟨hi, hd, he⟩

theorem scan_of_ok (d : List UInt8) (i : Nat) (f : Frame) (hd : ∀ j, j < i → DeadAt d j)
    (hok : frameNew (d.drop i) = .ok f) : scan d = (i + f.frameLen, some f) := by
  have h6 := ((frameNew_ok_iff _ _).mp hok).1
  rw [List.length_drop] at h6
  rw [scan_skip d i (by omega) hd, scan_ok _ f hok, Nat.add_comm]

theorem scan_some_pos (d : List UInt8) (c : Nat) (f : Frame) (h : scan d = (c, some f)) :
    6 ≤ c ∧ c ≤ d.length := by
  obtain ⟨i, hi, _, hok, hc, _⟩ := scan_some d c f h
  have hl := frameNew_ok_frameLen _ _ hok
  have : (d.drop i).length = d.length - i := by simp
  constructor <;> omega

theorem scan_some_drop_lt {buf : List UInt8} {c : Nat} {f : Frame} (h : scan buf = (c, some f)) :
    (buf.drop c).length < buf.length := by
  have := scan_some_pos buf c f h
  rw [List.length_drop]; omega

theorem scan_consumed_le (d : List UInt8) : (scan d).1 ≤ d.length := by
  rcases hs : scan d with ⟨c, _ | f⟩
  · exact (scan_none d c hs).1
  · exact (scan_some_pos d c f hs).2

theorem scan_append_some (d e : List UInt8) (c : Nat) (f : Frame) (h : scan d = (c, some f)) :
    scan (d ++ e) = (c, some f) := by
  obtain ⟨i, hi, _, hok, rfl, hd⟩ := scan_some d c f h
  apply scan_of_ok _ i f (fun j hj => (hd j hj).append (by omega) e)
  rw [List.drop_append_of_le_length (by omega)]
  exact frameNew_append_ok _ e f hok

theorem scan_delivers_valid (buf : List UInt8) (c : Nat) (g : Frame)
    (h : scan buf = (c, some g)) : frameNew g.frameData = .ok g := by
  obtain ⟨i, _, _, hok, _, _⟩ := scan_some buf c g h
  exact frameNew_frameData _ g hok

theorem drainAll_induction {motive : List UInt8 → Prop}
    (none : ∀ buf c, scan buf = (c, none) → motive buf)
    (some : ∀ buf c f, scan buf = (c, some f) → motive (buf.drop c) → motive buf) :
    ∀ buf, motive buf := fun buf => by
  induction h : buf.length using Nat.strongRecOn generalizing buf with
  | _ n ih =>
    rcases hs : scan buf with ⟨c, _ | f⟩
    · exact none buf c hs
    · exact some buf c f hs (ih _ (h ▸ scan_some_drop_lt hs) _ rfl)

theorem drain_fuel (fuel : Nat) (buf : List UInt8) (h : buf.length < fuel) :
    drain fuel buf = drain (buf.length + 1) buf := by
  induction fuel using Nat.strongRecOn generalizing buf with
  | _ fuel ih =>
    cases fuel with
    | zero => omega
    | succ fuel =>
      simp only [drain]
      rcases hs : scan buf with ⟨c, _ | f⟩
      · simp
      · simp only
        have hlen := scan_some_drop_lt hs
        rw [ih fuel (by omega) (buf.drop c) (by omega), ih buf.length (by omega) (buf.drop c) hlen]

theorem drainAll_unfold (buf : List UInt8) :
    drainAll buf = match scan buf with
      | (c, some f) => (f :: (drainAll (buf.drop c)).1, (drainAll (buf.drop c)).2)
      | (c, none) => ([], buf.drop c) := by
  have hd : drainAll buf = drain (buf.length + 1) buf := rfl
  rw [hd, drain]
  rcases hs : scan buf with ⟨c, _ | f⟩
  · rfl
  · simp only
    rw [drain_fuel buf.length (buf.drop c) (scan_some_drop_lt hs)]
    rfl

theorem drainAll_rem_le (buf : List UInt8) : (drainAll buf).2.length ≤ buf.length := by
  induction buf using drainAll_induction with
  | none buf c hs =>
    rw [drainAll_unfold, hs]
    show (buf.drop c).length ≤ buf.length
    rw [List.length_drop]
    exact Nat.sub_le _ _
  | some buf c f hs ih =>
    rw [drainAll_unfold, hs]
    exact Nat.le_trans ih (Nat.le_of_lt (scan_some_drop_lt hs))

theorem drainAll_drop_dead (d : List UInt8) (c : Nat) (hc : c ≤ d.length)
    (h : ∀ j, j < c → DeadAt d j) : drainAll d = drainAll (d.drop c) := by
  rw [drainAll_unfold d, scan_skip d c hc h, drainAll_unfold (d.drop c)]
  rcases scan (d.drop c) with ⟨c', _ | f⟩ <;> simp only [List.drop_drop, Nat.add_comm]

theorem drainAll_skip_dead (a b : List UInt8) (c : Nat) (hs : scan a = (c, none)) :
    drainAll (a ++ b) = drainAll (a.drop c ++ b) := by
  obtain ⟨hc, hd, _⟩ := scan_none a c hs
  rw [drainAll_drop_dead (a ++ b) c (by simp; omega) (fun j hj => (hd j hj).append (by omega) b),
    List.drop_append_of_le_length hc]

theorem drainAll_take_frame (a b : List UInt8) (c : Nat) (f : Frame) (hs : scan a = (c, some f)) :
    drainAll (a ++ b) = (f :: (drainAll (a.drop c ++ b)).1, (drainAll (a.drop c ++ b)).2) := by
  rw [drainAll_unfold (a ++ b), scan_append_some a b c f hs]
  simp only
  rw [List.drop_append_of_le_length (scan_some_pos a c f hs).2]

theorem drainAll_append (a b : List UInt8) :
    drainAll (a ++ b) =
      ((drainAll a).1 ++ (drainAll ((drainAll a).2 ++ b)).1, (drainAll ((drainAll a).2 ++ b)).2) := by
  induction a using drainAll_induction with
  | none a c hs => rw [drainAll_skip_dead a b c hs, drainAll_unfold a, hs]; rfl
  | some a c f hs ih => rw [drainAll_take_frame a b c f hs, ih, drainAll_unfold a, hs]; rfl

/-- `seg` is passed over, delivering `fs`: draining `seg ++ rest` delivers `fs` and then goes on with
`rest` exactly as if `seg` had not been there. -/
def Passes (seg : List UInt8) (fs : List Frame) : Prop :=
  ∀ rest, drainAll (seg ++ rest) = (fs ++ (drainAll rest).1, (drainAll rest).2)

theorem Passes.append {a b : List UInt8} {fa fb : List Frame} (ha : Passes a fa) (hb : Passes b fb) :
    Passes (a ++ b) (fa ++ fb) := fun rest => by
  rw [List.append_assoc, ha, hb, List.append_assoc]

/-- the payload may hold preamble bytes and whole frames: nothing inside an exact frame is looked at -/
theorem passes_exact {bs : List UInt8} {f : Frame} (h : Sys.ExactFrame bs f) : Passes bs [f] :=
  fun rest => by
  have hs : scan (bs ++ rest) = (0 + f.frameLen, some f) :=
    scan_of_ok _ 0 f (fun j hj => by omega) (frameNew_append_ok bs rest f h.1)
  rw [drainAll_unfold, hs, Nat.zero_add, ← h.2]
  simp only [List.drop_left]
  rfl

theorem passes_idle {g : List UInt8} (hg : ∀ b ∈ g, b ≠ 0xd3) : Passes g [] := fun rest => by
  rw [drainAll_drop_dead (g ++ rest) g.length (by simp) fun j hj => Or.inl ?_, List.drop_left]
  · rfl
  · rw [List.getD_eq_getElem?_getD, List.getElem?_append_left hj, List.getElem?_eq_getElem hj]
    exact hg _ (List.getElem_mem hj)

theorem Passes.flatten {ι : Type} (ps : List ι) (seg : ι → List UInt8) (fr : ι → Frame)
    (h : ∀ p ∈ ps, Passes (seg p) [fr p]) : Passes (ps.map seg).flatten (ps.map fr) := by
  induction ps with
  | nil => exact fun rest => rfl
  | cons p ps ih =>
    exact (h p (List.mem_cons_self ..)).append (ih fun q hq => h q (List.mem_cons_of_mem _ hq))

/-! `s.feed fut` (append and drain) is also where the stream `s` ends up if `fut` is all that is still
to come, however `fut` arrives: appending a part of it first, a scanner call, or feeding a part of it
first do not change `s.feed fut`, so a schedule of appends and single scanner calls ends in it. -/

theorem finish_eq_feed (s : StreamState) : s.finish = s.feed [] := by
  simp only [StreamState.feed, StreamState.finish, List.append_nil]

theorem feed_append (s : StreamState) (c fut : List UInt8) :
    (s.step (.append c)).feed fut = s.feed (c ++ fut) := by
  simp only [StreamState.feed, StreamState.step, List.append_assoc]

/-- A scanner call is the first round of the drain to come, which by `drainAll_skip_dead` (nothing
delivered) or `drainAll_take_frame` (a frame delivered) continues on what the call left; the rest is
the count of consumed bytes. -/
theorem feed_scanOnce (s : StreamState) (fut : List UInt8) :
    (s.step .scanOnce).feed fut = s.feed fut := by
  rcases hs : scan s.buf with ⟨c, _ | f⟩
  · have hc := (scan_none s.buf c hs).1
    have hr := drainAll_rem_le (s.buf.drop c ++ fut)
    simp only [StreamState.feed, StreamState.step, hs, drainAll_skip_dead s.buf fut c hs,
      Option.toList, List.append_nil, List.length_append, List.length_drop] at hr ⊢
    congr 1; omega
  · have hc := (scan_some_pos s.buf c f hs).2
    have hr := drainAll_rem_le (s.buf.drop c ++ fut)
    simp only [StreamState.feed, StreamState.step, hs, drainAll_take_frame s.buf fut c f hs,
      Option.toList, List.length_append, List.length_drop, List.append_assoc, List.cons_append,
      List.nil_append] at hr ⊢
    congr 1; omega

theorem feed_feed (s : StreamState) (c fut : List UInt8) :
    (s.feed c).feed fut = s.feed (c ++ fut) := by
  simp only [StreamState.feed]
  rw [← List.append_assoc, drainAll_append (s.buf ++ c) fut]
  have h1 := drainAll_rem_le (s.buf ++ c)
  have h2 := drainAll_rem_le ((drainAll (s.buf ++ c)).2 ++ fut)
  simp only [List.length_append, List.append_assoc] at h1 h2 ⊢
  congr 1; omega

theorem feed_schedule (ops : List StreamOp) (s : StreamState) (fut : List UInt8) :
    (ops.foldl StreamState.step s).feed fut = s.feed (appended ops ++ fut) := by
  induction ops generalizing s with
  | nil => rfl
  | cons op rest ih =>
    rw [List.foldl_cons, ih]
    cases op with
    | append c => rw [feed_append, appended, List.append_assoc]
    | scanOnce => rw [feed_scanOnce, appended]

theorem foldl_feed (chunks : List (List UInt8)) (s : StreamState) (p : List UInt8) :
    chunks.foldl StreamState.feed (s.feed p) = s.feed (p ++ chunks.flatten) := by
  induction chunks generalizing p with
  | nil => rw [List.flatten_nil, List.append_nil]; rfl
  | cons c cs ih => rw [List.foldl_cons, feed_feed, ih, List.flatten_cons, List.append_assoc]

theorem feedAll_eq_feed (chunks : List (List UInt8)) :
    feedAll chunks = StreamState.init.feed chunks.flatten :=
  foldl_feed chunks .init []

theorem feed_init (p : List UInt8) :
    (StreamState.init.feed p).delivered = (drainAll p).1 ∧
      (StreamState.init.feed p).buf = (drainAll p).2 ∧
      (StreamState.init.feed p).consumed + (StreamState.init.feed p).buf.length = p.length := by
  have := drainAll_rem_le p
  refine ⟨rfl, rfl, ?_⟩
  simp only [StreamState.feed, StreamState.init, List.nil_append]
  omega

/-- The bounds test of `next` changes nothing: beyond the end there is nothing to scan, and the
scanner consumes 0 of nothing. -/
theorem IterState.next_eq (s : IterState) :
    s.next = ({ s with index := s.index + (scan (s.data.drop s.index)).1 },
      (scan (s.data.drop s.index)).2) := by
  unfold IterState.next
  split
  · rw [List.drop_eq_nil_of_le ‹_›]; rfl
  · rfl

theorem collect_eq_drain (fuel : Nat) (d : List UInt8) (i : Nat) (hi : i ≤ d.length) :
    (IterState.collect fuel { data := d, index := i }).1 = (drain fuel (d.drop i)).1 ∧
    (IterState.collect fuel { data := d, index := i }).2.index ≤ d.length ∧
    d.drop (IterState.collect fuel { data := d, index := i }).2.index = (drain fuel (d.drop i)).2 := by
  induction fuel generalizing i with
  | zero => exact ⟨rfl, hi, rfl⟩
  | succ fuel ih =>
    rw [IterState.collect, drain, IterState.next_eq]
    rcases hs : scan (d.drop i) with ⟨c, _ | f⟩
    · have hc := (scan_none _ c hs).1
      rw [List.length_drop] at hc
      simp only [List.drop_drop]
      exact ⟨trivial, by omega, trivial⟩
    · have hc := (scan_some_pos _ c f hs).2
      rw [List.length_drop] at hc
      obtain ⟨h1, h2, h3⟩ := ih (i + c) (by omega)
      simp only [List.drop_drop]
      exact ⟨by rw [h1], h2, h3⟩

end Rtcm
