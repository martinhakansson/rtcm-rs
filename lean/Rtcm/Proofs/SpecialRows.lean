import Rtcm.Proofs.FragLaw
/-!
The rows 1029 (text), 1059, 1065, 1230 (bias lists) are a `msg!` of data fields followed by one final fragment
(`dfsThen`); `RowLaw.dfs` carries a `RowLaw` from that fragment to the row.  The relation `R` of `LawX` is
`Eq` except for the 1059/1065 lists, which come back regrouped by satellite.
-/
namespace Rtcm.SpecialRows
open Rtcm.Bits Rtcm.Schema Rtcm.Interp Rtcm.Text Rtcm.WF Rtcm.DecLocal Rtcm.CodecLaw

def dfsThen : List (String × DfSpec) → String → Frag → Fields
  | [], nm, leaf => .cons nm leaf .nil
  | (n, s) :: ss, nm, leaf => .cons n (.df s) (dfsThen ss nm leaf)

/-- the clean-input predicate of the final fragment, applied to what remains after the data fields -/
def CleanDfs : List (String × DfSpec) → (List Tok → Prop) → List Tok → Prop
  | [], C, ts => C ts
  | (_, s) :: ss, C, ts => ∀ t r, takeDf s ts = some (t, r) → CleanDfs ss C r

theorem cleanDfs_true : ∀ (ss : List (String × DfSpec)) (ts : List Tok), CleanDfs ss (fun _ => True) ts
  | [], _ => trivial
  | (_, _) :: ss, _ => fun _ r _ => cleanDfs_true ss r

/-- holds of header tokens: data fields decode to `int`/`flt`/`absent`/`present` -/
def NoCount (hdr : List Tok) : Prop := ∀ t ∈ hdr, ∀ n, t ≠ .count n

theorem NoCount.nil : NoCount [] := fun _ h => by cases h

theorem NoCount.append {a b : List Tok} (ha : NoCount a) (hb : NoCount b) : NoCount (a ++ b) := by
  intro t ht
  rcases List.mem_append.mp ht with h | h
  · exact ha t h
  · exact hb t h

theorem df_noCount {cfg : Cfg} {s : DfSpec} {c c' : Cur} {t : List Tok}
    (h : Df.decode cfg s c = .ok (t, c')) : NoCount t := by
  obtain ⟨p, o, tk, _, hq, rfl, _⟩ := Df.decode_ok.mp h
  refine Df.toksOf_forall (Df.dequantise_isVal hq) (fun _ => nofun) (fun _ => nofun) fun t ht n => ?_
  rcases ht with ⟨z, rfl⟩ | ⟨b, rfl⟩ <;> nofun

/-- the first list count of a token stream determines where the header ends -/
theorem split_at_count : ∀ (h1 h2 : List Tok) (a b : Nat) (x y : List Tok), NoCount h1 → NoCount h2 →
    h1 ++ .count a :: x = h2 ++ .count b :: y → h1 = h2 ∧ a = b ∧ x = y := by
  intro h1
  induction h1 with
  | nil =>
    intro h2 a b x y _ hn2 h
    cases h2 with
    | nil =>
      simp only [List.nil_append, List.cons.injEq, Tok.count.injEq] at h
      exact ⟨rfl, h.1, h.2⟩
    | cons t h2 =>
      simp only [List.nil_append, List.cons_append, List.cons.injEq] at h
      exact absurd h.1.symm (hn2 t (List.mem_cons_self ..) a)
  | cons t h1 ih =>
    intro h2 a b x y hn1 hn2 h
    cases h2 with
    | nil =>
      simp only [List.nil_append, List.cons_append, List.cons.injEq] at h
      exact absurd h.1 (hn1 t (List.mem_cons_self ..) b)
    | cons t2 h2 =>
      simp only [List.cons_append, List.cons.injEq] at h
      obtain ⟨e1, e2, e3⟩ := ih h2 a b x y (fun u hu => hn1 u (List.mem_cons_of_mem _ hu))
        (fun u hu => hn2 u (List.mem_cons_of_mem _ hu)) h.2
      exact ⟨by rw [h.1, e1], e2, e3⟩

def RelDfs (R : List Tok → List Tok → Prop) (t0 nt : List Tok) : Prop :=
  ∃ hdr tl tl', NoCount hdr ∧ t0 = hdr ++ tl ∧ nt = hdr ++ tl' ∧ R tl tl'

theorem RelDfs.append {R : List Tok → List Tok → Prop} {a b b' : List Tok} (ha : NoCount a)
    (h : RelDfs R b b') : RelDfs R (a ++ b) (a ++ b') := by
  obtain ⟨hdr, tl, tl', hnc, rfl, rfl, hR⟩ := h
  exact ⟨a ++ hdr, tl, tl', ha.append hnc, (List.append_assoc ..).symm, (List.append_assoc ..).symm, hR⟩

theorem relDfs_eq {t0 nt : List Tok} (h : RelDfs Eq t0 nt) : nt = t0 := by
  obtain ⟨hdr, tl, tl', _, rfl, rfl, rfl⟩ := h
  rfl

theorem df_off_sum {cfg : Cfg} {s : DfSpec} {ts rest : List Tok} {c c' : Cur}
    (h : Df.encode cfg s ts c = .ok (c', rest)) (n : String) (ss : List (String × DfSpec)) :
    c.off + Size.sumLens ((n, s) :: ss) = c'.off + Size.sumLens ss := by
  obtain ⟨_, _, _, _, hput⟩ := Df.encode_ok h
  rw [(put_below hput).1, Nat.add_assoc]
  rfl

def QDfs (Q : List Tok → Prop) (nt : List Tok) : Prop := ∃ hdr tl, NoCount hdr ∧ nt = hdr ++ tl ∧ Q tl

theorem QDfs.append {Q : List Tok → Prop} {a b : List Tok} (ha : NoCount a) (h : QDfs Q b) :
    QDfs Q (a ++ b) := by
  obtain ⟨hdr, tl, hnc, rfl, hq⟩ := h
  exact ⟨a ++ hdr, tl, ha.append hnc, (List.append_assoc ..).symm, hq⟩

theorem text_law (cfg : Cfg) (glo : SigTable) :
    LawX (encFrag cfg glo .text1029) (decFrag cfg .text1029) (fun o => (o + 15) % 8 = 0) (fun _ => True) Eq := by
  intro ts c c' rest hg hfit hP hok _ h
  have hext := encFrag_ext (f := .text1029) rfl hg h
  obtain ⟨b, rfl, hcond, htxt⟩ := encFrag_text_ok.mp h
  have hb : ∀ x ∈ b, x < 256 := by
    have := hok (.bytes b) (List.mem_cons_self ..)
    simpa [tokOK] using this
  have hutf : validUtf8 b = true := by
    cases hvb : validUtf8 b with
    | true => rfl
    | false => exact absurd (Or.inr (by simp [hvb])) hcond
  have hdec := (TextLaws.text1029_law cfg b hb hutf c c' hg hP htxt).2.2.self hext.good
  refine ⟨⟨[_], rfl⟩, hext, [.bytes b], ?_,
    fun rest' => encFrag_text_ok.mpr ⟨b, rfl, hcond, htxt⟩, ?_⟩
  · rw [decFrag_text1029]
    exact (bind_map_ok fun b => [Tok.bytes b]).mpr ⟨_, hdec, rfl⟩
  · intro c0 t0 c0' r h0 hts
    obtain ⟨b0, _, rfl⟩ := (bind_map_ok fun b => [Tok.bytes b]).mp (decFrag_text1029 .. ▸ h0)
    cases hts
    exact ⟨rfl, rfl⟩

theorem text_tokOK (cfg : Cfg) : ∀ c t c', DecLocal.Bytes c.data → decFrag cfg .text1029 c = .ok (t, c') →
    TokOK t := by
  intro c t c' hb h
  obtain ⟨b, e, rfl⟩ := (bind_map_ok fun b => [Tok.bytes b]).mp (decFrag_text1029 .. ▸ h)
  refine .cons ?_ .nil
  rw [text1029Decode_eq] at e
  obtain ⟨⟨_, c1⟩, e1, e⟩ := Res.bind_eq_ok e
  obtain ⟨⟨len, c2⟩, e2, e⟩ := Res.bind_eq_ok e
  have d1 := (localG_of_data (parseU_localG cfg 8 7) e1).1
  have d2 := (localG_of_data (parseU_localG cfg 8 8) e2).1
  dsimp only at e
  split at e
  · cases e
  · split at e
    · cases e
      simp only [tokOK, List.all_eq_true, decide_eq_true_eq]
      intro x hx
      exact hb x (d1 ▸ d2 ▸ List.mem_of_mem_drop (List.mem_of_mem_take hx))
    · cases e

theorem bytes_map_toNat (l : List UInt8) : DecLocal.Bytes (l.map (·.toNat)) := by
  intro x hx
  obtain ⟨y, _, rfl⟩ := List.mem_map.mp hx
  exact y.toNat_lt

theorem cleanDfs_of_takeFields (C : List Tok → Prop) : ∀ (ss : List (String × DfSpec)) (ts : List Tok)
    (row : List (List Tok)) (rest : List Tok), takeFields ss ts = some (row, rest) → C rest →
    CleanDfs ss C ts := by
  intro ss ts row rest h hc
  fun_induction takeFields ss ts generalizing row
  · cases h; exact hc
  · next s fs ts t r1 e1 tt r2 e2 ih =>
    cases h
    intro t' r' ht
    cases e1.symm.trans ht
    exact ih tt e2
  · cases h
  · cases h

theorem RowLaw.dfs {cfg : Cfg} {glo : SigTable} {nm : String} {leaf : Frag} {P : Nat → Prop} {C : List Tok → Prop}
    {R : List Tok → List Tok → Prop} {Q : List Tok → Prop}
    (h : RowLaw (encFrag cfg glo leaf) (decFrag cfg leaf) P C R Q) :
    ∀ ss : List (String × DfSpec), WFFrag (.seq (dfsThen ss nm leaf)) = true →
      RowLaw (encFrag cfg glo (.seq (dfsThen ss nm leaf))) (decFrag cfg (.seq (dfsThen ss nm leaf)))
        (fun o => P (o + Size.sumLens ss)) (CleanDfs ss C) (RelDfs R) (QDfs Q)
  | [], _ => by
    rw [encFrag_seq, decFrag_seq, dfsThen, encFields_cons_seq, decFields_cons_seq, encFields_nil,
      decFields_nil, Enc.seq_nil, Dec.seq_nil]
    refine ⟨h.lawX.mono (fun _ h => h) (fun _ h => h) fun a b h => ⟨[], a, b, NoCount.nil, rfl, rfl, h⟩,
      ?_, h.decoded⟩
    intro ts c c' rest hg hfit hP hok he
    obtain ⟨b, nt, c'', d, h2, hq⟩ := h.weak ts c c' rest hg hfit hP hok he
    exact ⟨b, nt, c'', d, h2, [], nt, NoCount.nil, rfl, hq⟩
  | (n, s) :: ss, hw0 => by
    have hw : DfWf.wf s = true ∧ WFFields (dfsThen ss nm leaf) = true :=
      wfFields_cons.mp (show WFFields (.cons n (.df s) (dfsThen ss nm leaf)) = true from hw0)
    have ih := RowLaw.dfs h ss hw.2
    have hl := df_local cfg s (NoPanic.widths_of_wf hw.1)
    rw [encFrag_seq, decFrag_seq] at ih ⊢
    rw [dfsThen, encFields_cons_seq, decFields_cons_seq, encFrag_df, decFrag_df]
    refine ⟨LawX.seq (df_law cfg s hw.1) hl ih.lawX ?_ fun _ _ _ _ _ e h => h.append (df_noCount e),
      ?_, ?_⟩
    · intro ts c c1 ts1 hg hP hC e1
      obtain ⟨t, _, htk, _⟩ := Df.encode_ok e1
      exact ⟨show P _ from df_off_sum e1 n ss ▸ hP, hC t ts1 htk⟩
    · intro ts c c2 rest hg hfit hP hok he
      obtain ⟨c1, ts1, e1, e2⟩ := Enc.seq_ok.mp he
      obtain ⟨⟨_, hs1⟩, x1, nt1, d1, _, _⟩ := df_core cfg s hw.1 ts c c1 ts1 hg e1
      have hf1 := x1.fit hfit
      obtain ⟨x2, nt2, c'', d2, h2, hq⟩ := ih.weak ts1 c1 c2 rest x1.good hf1
        (show P _ from df_off_sum e1 n ss ▸ hP) (hs1 ▸ hok).suffix e2
      exact ⟨x1.trans x2, nt1 ++ nt2, c'',
        Dec.seq_ok.mpr ⟨nt1, _, nt2, read_after hl x2 x1.good hf1 d1, d2, rfl⟩, h2, hq.append (df_noCount d1)⟩
    · intro c t c' hb h
      obtain ⟨ta, ca, tb, ea, eb, rfl⟩ := Dec.seq_ok.mp h
      obtain ⟨h1, h2⟩ := ih.decoded ca tb c' ((localG_of_data hl ea).1 ▸ hb) eb
      refine ⟨(FragLaw.df_tokOK ea).append h1, fun t' r ht => ?_⟩
      obtain ⟨p, o, tk, _, hq, rfl, _⟩ := Df.decode_ok.mp ea
      rw [Df.takeDf_toksOf (Df.dequantise_isVal hq)] at ht
      cases ht
      exact h2

theorem text_rowLaw (cfg : Cfg) (glo : SigTable) :
    RowLaw (encFrag cfg glo .text1029) (decFrag cfg .text1029) (fun o => (o + 15) % 8 = 0) (fun _ => True) Eq
      fun _ => True :=
  ⟨text_law cfg glo, (text_law cfg glo).weak,
    fun c t c' hb h => ⟨text_tokOK cfg c t c' hb h, trivial⟩⟩

end Rtcm.SpecialRows
