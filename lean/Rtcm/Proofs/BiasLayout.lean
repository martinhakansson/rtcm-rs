import Rtcm.Proofs.Layout
import Rtcm.Model.Interp
/-!
Each encoder of `Model/Bias.lean` is `putAll` of a list that depends on the entries only
(`encode_putAll`, `encode1230_putAll`); the three fragments the interpreter builds on them have one
shape (`Interp.listE`, `Interp.listD`). `C16.recognised` and `C16.grouped` are declared here because the
layouts and the laws below Props/C16 are stated with them.
-/
namespace Rtcm.C16
open Rtcm.Bias

/-- entry's signal is in the table (the test `encEntries` makes) -/
def recognised (p : Params) (e : Entry) : Bool := (Sig.toId p.tbl e.band e.attr).isSome

/-- the decoded list: satellites ascending, original relative order inside each satellite -/
def grouped (p : Params) (f : Entry → Entry) (v : List Entry) : List Entry :=
  (satsOf p v).flatMap fun s => (v.filter fun e => e.sat == s).map f

end Rtcm.C16

namespace Rtcm.Bias
open Rtcm.Layout Rtcm.Text Rtcm.Schema Rtcm.CurLaws

def entryItems (p : Params) (es : List Entry) : List Item :=
  es.flatMap fun e =>
    match Sig.toId p.tbl e.band e.attr with
    | some sid => [.fld ⟨.u, 8⟩ 5 sid, .fld ⟨.i, 16⟩ 14 (quantBias res001 e.bias)]
    | none => []

theorem entryItems_some {p : Params} {e : Entry} {sid : Nat} (es : List Entry)
    (h : Sig.toId p.tbl e.band e.attr = some sid) :
    entryItems p (e :: es) =
      .fld ⟨.u, 8⟩ 5 sid :: .fld ⟨.i, 16⟩ 14 (quantBias res001 e.bias) :: entryItems p es := by
  simp only [entryItems, List.flatMap_cons, h]; rfl

theorem entryItems_none {p : Params} {e : Entry} (es : List Entry)
    (h : Sig.toId p.tbl e.band e.attr = none) : entryItems p (e :: es) = entryItems p es := by
  simp only [entryItems, List.flatMap_cons, h]; rfl

theorem filter_recg_some {p : Params} {e : Entry} {sid : Nat} (es : List Entry)
    (h : Sig.toId p.tbl e.band e.attr = some sid) :
    (e :: es).filter (C16.recognised p) = e :: es.filter (C16.recognised p) :=
  List.filter_cons_of_pos (by rw [C16.recognised, h]; rfl)

theorem filter_recg_none {p : Params} {e : Entry} (es : List Entry)
    (h : Sig.toId p.tbl e.band e.attr = none) :
    (e :: es).filter (C16.recognised p) = es.filter (C16.recognised p) :=
  List.filter_cons_of_neg (by rw [C16.recognised, h]; exact Bool.false_ne_true)

def satItems (p : Params) (v : List Entry) (ss : List Nat) : List Item :=
  ss.flatMap fun s =>
    .fld ⟨.u, 8⟩ p.satBits s ::
      if ((v.filter fun e => e.sat == s).filter (C16.recognised p)).length > 31 then [.fail .outOfRange]
      else .fld ⟨.u, 8⟩ 5 ((v.filter fun e => e.sat == s).filter (C16.recognised p)).length ::
        entryItems p (v.filter fun e => e.sat == s)

theorem satItems_cons (p : Params) (v : List Entry) (s : Nat) (ss : List Nat) :
    satItems p v (s :: ss) = (.fld ⟨.u, 8⟩ p.satBits s ::
      if ((v.filter fun e => e.sat == s).filter (C16.recognised p)).length > 31 then [.fail .outOfRange]
      else .fld ⟨.u, 8⟩ 5 ((v.filter fun e => e.sat == s).filter (C16.recognised p)).length ::
        entryItems p (v.filter fun e => e.sat == s)) ++ satItems p v ss :=
  List.flatMap_cons ..

/-- the layout of `Bias.encode` (`encode_putAll`) -/
def items (p : Params) (v : List Entry) : List Item :=
  if !checkSats p v || (p.checkSatNum && (satsOf p v).length > 63) then [.fail .outOfRange]
  else .fld ⟨.u, 8⟩ 6 (satsOf p v).length :: satItems p v (satsOf p v)

theorem mem_entryItems {p : Params} {es : List Entry} {i : Item} (h : i ∈ entryItems p es) :
    ∃ e ∈ es, ∃ sid, Sig.toId p.tbl e.band e.attr = some sid ∧
      (i = .fld ⟨.u, 8⟩ 5 sid ∨ i = .fld ⟨.i, 16⟩ 14 (quantBias res001 e.bias)) := by
  obtain ⟨e, he, hi⟩ := List.mem_flatMap.mp h
  cases hsid : Sig.toId p.tbl e.band e.attr with
  | none => rw [hsid] at hi; cases hi
  | some sid =>
    rw [hsid] at hi
    simp only [List.mem_cons, List.mem_nil_iff, or_false] at hi
    exact ⟨e, he, sid, hsid, hi⟩

theorem mem_satItems {p : Params} {v : List Entry} {ss : List Nat} {i : Item} :
    i ∈ satItems p v ss ↔ ∃ s ∈ ss, i = .fld ⟨.u, 8⟩ p.satBits s ∨
      (31 < ((v.filter fun e => e.sat == s).filter (C16.recognised p)).length ∧ i = .fail .outOfRange) ∨
      (((v.filter fun e => e.sat == s).filter (C16.recognised p)).length ≤ 31 ∧
        (i = .fld ⟨.u, 8⟩ 5 ((v.filter fun e => e.sat == s).filter (C16.recognised p)).length ∨
          i ∈ entryItems p (v.filter fun e => e.sat == s))) := by
  unfold satItems
  rw [List.mem_flatMap]
  refine exists_congr fun s => and_congr_right fun _ => ?_
  rw [List.mem_cons]
  refine or_congr_right ?_
  by_cases hn : 31 < ((v.filter fun e => e.sat == s).filter (C16.recognised p)).length
  · rw [if_pos hn]
    simp only [List.mem_singleton, hn, true_and, Nat.not_le.mpr hn, false_and, or_false]
  · rw [if_neg hn]
    simp only [List.mem_cons, hn, false_and, false_or, Nat.le_of_not_gt hn, true_and]

theorem items_wf (p : Params) (h1 : 1 ≤ p.satBits) (h8 : p.satBits ≤ 8) (v : List Entry) :
    ∀ i ∈ items p v, i.Wf := by
  intro i hi
  unfold items at hi
  split at hi
  · rw [List.mem_singleton.mp hi]; trivial
  · rcases List.mem_cons.mp hi with rfl | hi
    · show Bits.Widths _ _; decide
    · obtain ⟨s, _, rfl | ⟨_, rfl⟩ | ⟨_, rfl | hi⟩⟩ := mem_satItems.mp hi
      · exact ⟨by decide, by decide, h1, h8⟩
      · trivial
      · show Bits.Widths _ _; decide
      · obtain ⟨_, _, _, _, rfl | rfl⟩ := mem_entryItems hi <;>
          (show Bits.Widths _ _; decide)

/-- the comparison the 1230 encoder sorts by (`Ord for GloSigId`) -/
def le1230 (t : SigTable) (a b : Entry) : Bool :=
  Sig.cmp t (a.band, a.attr) (b.band, b.attr) != .gt

section
-- with smart unfolding off the defeq check unfolds the model's three-way matches: each encoder body
-- is its `>>=` form
set_option smartUnfolding false

theorem encEntries_cons (cfg : Cfg) (p : Params) (e : Entry) (es : List Entry) (c : Cur) :
    encEntries cfg p (e :: es) c =
      match Sig.toId p.tbl e.band e.attr with
      | some sid =>
        putU cfg 8 sid 5 c >>= fun c1 => putI16 cfg (quantBias res001 e.bias) 14 c1 >>= encEntries cfg p es
      | none => encEntries cfg p es c := rfl

theorem encSats_cons (cfg : Cfg) (p : Params) (v : List Entry) (s : Nat) (ss : List Nat) (c : Cur) :
    encSats cfg p v (s :: ss) c =
      putU cfg 8 s p.satBits c >>= fun c1 =>
        if ((v.filter fun e => e.sat == s).filter (C16.recognised p)).length > 31 then .err .outOfRange
        else putU cfg 8 ((v.filter fun e => e.sat == s).filter (C16.recognised p)).length 5 c1 >>= fun c2 =>
          encEntries cfg p (v.filter fun e => e.sat == s) c2 >>= encSats cfg p v ss := rfl

theorem encode_eq (cfg : Cfg) (p : Params) (v : List Entry) (c : Cur) :
    encode cfg p v c =
      if !checkSats p v then .err .outOfRange
      else if p.checkSatNum && (satsOf p v).length > 63 then .err .outOfRange
      else putU cfg 8 (satsOf p v).length 6 c >>= encSats cfg p v (satsOf p v) := rfl

theorem enc1230Biases_cons (cfg : Cfg) (e : Entry) (es : List Entry) (c : Cur) :
    enc1230Biases cfg (e :: es) c = putI16 cfg (quantBias res002 e.bias) 16 c >>= enc1230Biases cfg es := rfl

theorem encode1230_eq (cfg : Cfg) (t : SigTable) (v : List Entry) (c : Cur) :
    encode1230 cfg t v c =
      if firstBad1230 (Sig.sortBy (le1230 t) v) then .err .invalidSignalId
      else mask1230 (Sig.sortBy (le1230 t) v) >>= fun m =>
        putU cfg 8 m 4 c >>= enc1230Biases cfg (Sig.sortBy (le1230 t) v) := rfl

end

theorem encEntries_putAll (cfg : Cfg) (p : Params) : ∀ es : List Entry,
    encEntries cfg p es = putAll cfg (entryItems p es)
  | [] => rfl
  | e :: es => by
    funext c
    rw [encEntries_cons, encEntries_putAll cfg p es]
    cases h : Sig.toId p.tbl e.band e.attr with
    | none => rw [entryItems_none es h]
    | some sid => rw [entryItems_some es h]; simp only [putU_eq, putI16_eq]; rfl

theorem encSats_putAll (cfg : Cfg) (p : Params) (v : List Entry) : ∀ ss : List Nat,
    encSats cfg p v ss = putAll cfg (satItems p v ss)
  | [] => rfl
  | s :: ss => by
    funext c
    rw [encSats_cons, encSats_putAll cfg p v ss, encEntries_putAll, satItems_cons, putAll_append, putAll,
      Res.bind_assoc]
    simp only [putU_eq]
    refine congrArg _ (funext fun c1 => ?_)
    by_cases h : ((v.filter fun e => e.sat == s).filter (C16.recognised p)).length > 31
    · simp only [h, if_true]; rfl
    · simp only [h, if_false, putAll, Res.bind_assoc]

theorem encode_putAll (cfg : Cfg) (p : Params) (v : List Entry) :
    encode cfg p v = putAll cfg (items p v) := by
  funext c
  rw [encode_eq, encSats_putAll, items]
  simp only [putU_eq]
  cases checkSats p v with
  | false => rfl
  | true =>
    simp only [Bool.not_true, Bool.false_eq_true, if_false, Bool.false_or]
    split <;> rfl

/-- `mask1230` without its error case -/
def maskOf : List Entry → Nat
  | [] => 0
  | e :: es => maskOf es ||| (maskBit1230 e.band e.attr).getD 0

theorem mask1230_eq : ∀ l : List Entry,
    mask1230 l = if firstBad1230 l then .err .invalidSignalId else .ok (maskOf l)
  | [] => rfl
  | e :: es => by
    rw [mask1230, firstBad1230, maskOf, mask1230_eq es]
    cases maskBit1230 e.band e.attr with
    | none => rfl
    | some b => cases firstBad1230 es <;> rfl

def biasItems1230 (es : List Entry) : List Item :=
  es.map fun e => .fld ⟨.i, 16⟩ 16 (quantBias res002 e.bias)

/-- the layout of `Bias.encode1230` (`encode1230_putAll`) -/
def items1230 (t : SigTable) (v : List Entry) : List Item :=
  if firstBad1230 (Sig.sortBy (le1230 t) v) then [.fail .invalidSignalId]
  else .fld ⟨.u, 8⟩ 4 (maskOf (Sig.sortBy (le1230 t) v)) :: biasItems1230 (Sig.sortBy (le1230 t) v)

theorem items1230_wf (t : SigTable) (v : List Entry) : ∀ i ∈ items1230 t v, i.Wf := by
  intro i hi
  unfold items1230 at hi
  split at hi
  · rw [List.mem_singleton.mp hi]; trivial
  · rcases List.mem_cons.mp hi with rfl | hi
    · show Bits.Widths _ _; decide
    · obtain ⟨_, _, rfl⟩ := List.mem_map.mp hi
      show Bits.Widths _ _; decide

theorem enc1230Biases_putAll (cfg : Cfg) : ∀ es : List Entry,
    enc1230Biases cfg es = putAll cfg (biasItems1230 es)
  | [] => rfl
  | e :: es => by
    funext c
    rw [enc1230Biases_cons, enc1230Biases_putAll cfg es, putI16_eq]
    rfl

theorem encode1230_putAll (cfg : Cfg) (t : SigTable) (v : List Entry) :
    encode1230 cfg t v = putAll cfg (items1230 t v) := by
  funext c
  rw [encode1230_eq, mask1230_eq, enc1230Biases_putAll, items1230]
  simp only [putU_eq]
  cases firstBad1230 (Sig.sortBy (le1230 t) v) <;> rfl

end Rtcm.Bias

namespace Rtcm.Interp
open Rtcm.Schema Rtcm.Bias

def listE (ws : Bool) (cap : Nat) (enc : List Entry → Cur → Res Cur) : Enc := fun ts c =>
  match ts with
  | .count n :: rest =>
    if n > cap then .panic "tokens: list longer than capacity"
    else match takeBias ws n rest with
      | some (es, rest') => enc es c >>= fun c' => .ok (c', rest')
      | none => .panic "tokens: bias entries expected"
  | _ => .panic "tokens: count expected"

def listD (ws : Bool) (dec : Cur → Res (List Entry × Cur)) : Dec := fun c =>
  dec c >>= fun (es, c') => .ok (biasToks ws es, c')

section
-- as above, for `encFrag`'s match on the layout
set_option smartUnfolding false

theorem encFrag_bias1059 (cfg : Cfg) (glo : SigTable) (cap : Nat) (tbl : SigTable) (ts : List Tok) (c : Cur) :
    encFrag cfg glo (.bias1059 cap tbl) ts c =
      listE true cap (Bias.encode cfg (params1059 cap tbl)) ts c := rfl

theorem encFrag_bias1065 (cfg : Cfg) (glo : SigTable) (cap : Nat) (tbl : SigTable) (ts : List Tok) (c : Cur) :
    encFrag cfg glo (.bias1065 cap tbl) ts c =
      listE true cap (Bias.encode cfg (params1065 cap tbl)) ts c := rfl

theorem encFrag_bias1230 (cfg : Cfg) (glo : SigTable) (ts : List Tok) (c : Cur) :
    encFrag cfg glo .bias1230 ts c = listE false 4 (encode1230 cfg glo) ts c := rfl

end

theorem listE_cases (ws : Bool) (cap : Nat) (enc : List Entry → Cur → Res Cur) (ts : List Tok) (c : Cur) :
    (∃ w, NoPanic.TokPanic w ∧ listE ws cap enc ts c = .panic w) ∨
    ∃ n rest es rest', ts = .count n :: rest ∧ n ≤ cap ∧ takeBias ws n rest = some (es, rest') ∧
      listE ws cap enc ts c = enc es c >>= fun c' => .ok (c', rest') := by
  unfold listE
  split
  · next n rest =>
    split
    · exact .inl ⟨_, NoPanic.tokPanic_cap, rfl⟩
    · next hn =>
      split
      · next es rest' et => exact .inr ⟨n, rest, es, rest', rfl, Nat.le_of_not_gt hn, et, rfl⟩
      · exact .inl ⟨_, NoPanic.tokPanic_entries, rfl⟩
  · exact .inl ⟨_, NoPanic.tokPanic_count, rfl⟩

theorem listE_ok {ws : Bool} {cap : Nat} {enc : List Entry → Cur → Res Cur} {ts rest : List Tok}
    {c c' : Cur} (h : listE ws cap enc ts c = .ok (c', rest)) :
    ∃ n rest0 es, ts = .count n :: rest0 ∧ n ≤ cap ∧ takeBias ws n rest0 = some (es, rest) ∧
      enc es c = .ok c' := by
  rcases listE_cases ws cap enc ts c with ⟨w, _, e⟩ | ⟨n, rest0, es, rest', rfl, hn, et, e⟩
  · cases e ▸ h
  · obtain ⟨c2, henc, hk⟩ := Res.bind_eq_ok (e ▸ h)
    cases hk
    exact ⟨n, rest0, es, rfl, hn, et, henc⟩

theorem listE_sat {Q : Cur → Prop} {E : RtcmError → Prop} {P : String → Prop}
    (hp : ∀ w, NoPanic.TokPanic w → P w) (ws : Bool) (cap : Nat)
    {enc : List Entry → Cur → Res Cur} (ts : List Tok) {c : Cur} (h : ∀ es, (enc es c).Sat Q E P) :
    (listE ws cap enc ts c).Sat (fun (c', _) => Q c') E P := by
  rcases listE_cases ws cap enc ts c with ⟨w, hw, e⟩ | ⟨_, _, es, _, _, _, _, e⟩
  · exact e ▸ hp w hw
  · exact e ▸ (h es).bind fun _ hq => hq

end Rtcm.Interp
