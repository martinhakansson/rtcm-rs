import Rtcm.Proofs.MessageLaws
import Rtcm.Proofs.NoPanicEnc
import Rtcm.Proofs.MkFrame
/-!
The bytes a successful `build_message` returns are the length header, the payload cut out of the window, and
the CRC of the two: `mkFrame` of the payload, so `frameNew` accepts them as themselves.  On a well-formed layout
the body encoder extends the window it was given, so the number written first still stands in its first 12 bits.
-/
namespace Rtcm.Message
open Rtcm.Schema Rtcm.Interp Rtcm.WF Rtcm.NoPanic

theorem take_set3 (l : List Nat) (k a b c : Nat) (h : k + 3 ≤ l.length) :
    (((l.set k a).set (k + 1) b).set (k + 2) c).take (k + 3) = l.take k ++ [a, b, c] := by
  induction k generalizing l with
  | zero =>
    match l, h with
    | x :: y :: z :: tl, _ => simp
  | succ k ih =>
    match l, h with
    | x :: tl, h =>
      simp only [List.length_cons] at h
      have := ih tl (by omega)
      simp only [List.set_cons_succ, List.take_succ_cons, List.cons_append]
      exact congrArg (x :: ·) this

theorem sealed_take {d : List Nat} (hd : GoodBuf d) {c : Cur} (hcl : c.data.length = 1023)
    (hhi : c.off ≤ 8184) :
    (sealed d c).take (payLen c + 6) = frameOf (payLen c) (c.data.take (payLen c)) := by
  have hL : payLen c ≤ 1023 := by unfold payLen; omega
  have e2 : ((putBack d c.data).set 1 ((payLen c >>> 8) % 256)).set 2 (payLen c % 256)
      = 0xd3 :: (payLen c >>> 8) % 256 :: payLen c % 256 :: (c.data ++ d.drop 1026) := by
    match d, hd with
    | _ :: _ :: _ :: _, ⟨_, hh⟩ => cases hh; rfl
  have e3 : (0xd3 :: (payLen c >>> 8) % 256 :: payLen c % 256 :: (c.data ++ d.drop 1026)).take (payLen c + 3)
      = [0xd3, (payLen c >>> 8) % 256, payLen c % 256] ++ c.data.take (payLen c) := by
    rw [List.take_succ_cons, List.take_succ_cons, List.take_succ_cons,
      List.take_append_of_le_length (by omega)]
    rfl
  unfold sealed
  simp only [e2]
  rw [take_set3 _ (payLen c + 3) _ _ _
      (by simp only [List.length_cons, List.length_append, List.length_drop, hcl, hd.1]; omega), e3]
  rfl

theorem getD_take {l : List Nat} {L j : Nat} (h : j < L) : (l.take L).getD j 0 = l.getD j 0 := by
  simp only [List.getD_eq_getElem?_getD, List.getElem?_take, if_pos h]

theorem byteAt_map_ofNat (P : List Nat) (i : Nat) (hi : i < P.length) (hP : ∀ x ∈ P, x < 256) :
    byteAt (P.map UInt8.ofNat) i = P.getD i 0 := by
  unfold byteAt
  simp only [List.getD_eq_getElem?_getD, List.getElem?_map, List.getElem?_eq_getElem hi, Option.map_some,
    Option.getD_some]
  have := hP P[i] (List.getElem_mem hi)
  simp [UInt8.toNat_ofNat']
  omega

theorem frameOf_spec (L : Nat) (P : List Nat) (hP : P.length = L) (hL2 : 2 ≤ L) (hL : L ≤ 1023) :
    (frameOf L P).length = L + 6 ∧ (frameOf L P).getD 0 0 = 0xd3 ∧
    (frameOf L P).getD 1 0 &&& 0xFC = 0 ∧
    (((frameOf L P).getD 1 0 &&& 3) <<< 8 ||| (frameOf L P).getD 2 0) = L ∧
    (frameOf L P).map UInt8.ofNat = mkFrame 0 (P.map UInt8.ofNat) := by
  have hs : L >>> 8 < 4 := by
    rw [Nat.shiftRight_eq_div_pow]
    have : (2 : Nat) ^ 8 = 256 := by decide
    omega
  have hm : (L >>> 8) % 256 = L >>> 8 := Nat.mod_eq_of_lt (by omega)
  refine ⟨?_, rfl, ?_, ?_, ?_⟩
  · show ([0xd3, (L >>> 8) % 256, L % 256] ++ P ++ [_, _, _]).length = L + 6
    rw [List.length_append, List.length_append, hP]
    show 3 + L + 3 = L + 6
    omega
  · show (L >>> 8) % 256 &&& 0xFC = 0
    rw [hm]
    exact (by decide : ∀ x, x < 4 → x &&& 0xFC = 0) _ hs
  · show ((L >>> 8) % 256 &&& 3) <<< 8 ||| L % 256 = L
    have := header_len 0 L (by omega)
    rwa [Nat.zero_shiftLeft, Nat.zero_or] at this
  · -- `mkFrame 0` writes the same header (reserved bits 0) and takes the CRC of the same bytes
    unfold frameOf mkFrame frameHeader crcBytes
    simp only [List.map_append, List.map_cons, List.map_nil, List.length_map, hP]
    have e0 : (0 % 64) <<< 2 ||| L >>> 8 = L >>> 8 := by rw [Nat.zero_mod, Nat.zero_shiftLeft, Nat.zero_or]
    rw [e0, hm]
    simp only [UInt8.reduceOfNat, List.cons_append, List.nil_append]

theorem frameNew_frameOf {c : Cur} (hg : ∀ d ∈ c.data, d < 256) (hcl : c.data.length = 1023)
    (hlo : 12 ≤ c.off) (hhi : c.off ≤ 8184) :
    frameNew ((frameOf (payLen c) (c.data.take (payLen c))).map UInt8.ofNat)
      = .ok (mkFrameResult 0 ((c.data.take (payLen c)).map UInt8.ofNat)) ∧
    (mkFrameResult 0 ((c.data.take (payLen c)).map UInt8.ofNat)).number
      = some ((c.data.getD 0 0 <<< 4) ||| (c.data.getD 1 0 >>> 4)) := by
  obtain ⟨hL2, hL, -⟩ := payLen_bounds hlo hhi
  have hPl : (c.data.take (payLen c)).length = payLen c := by rw [List.length_take]; omega
  have hPb : ∀ x ∈ c.data.take (payLen c), x < 256 := fun x hx => hg x (List.mem_of_mem_take hx)
  refine ⟨(frameOf_spec _ _ hPl hL2 hL).2.2.2.2 ▸
    frameNew_mkFrame_nil 0 _ (by rw [List.length_map]; omega), ?_⟩
  show (if 2 ≤ ((c.data.take (payLen c)).map UInt8.ofNat).length then _ else none : Option Nat) = _
  rw [if_pos (by rw [List.length_map]; omega), byteAt_map_ofNat _ 0 (by omega) hPb,
    byteAt_map_ofNat _ 1 (by omega) hPb, getD_take (by omega), getD_take (by omega)]

theorem frameOf_bytes (L : Nat) (P : List Nat) (hP : ∀ x ∈ P, x < 256) : ∀ x ∈ frameOf L P, x < 256 := by
  intro x hx
  unfold frameOf at hx
  simp only [List.mem_append, List.mem_cons, List.not_mem_nil, or_false] at hx
  rcases hx with (((rfl | rfl | rfl) | hx) | (rfl | rfl | rfl))
  · decide
  · exact Nat.mod_lt _ (by decide)
  · exact Nat.mod_lt _ (by decide)
  · exact hP x hx
  · exact Nat.mod_lt _ (by decide)
  · exact Nat.mod_lt _ (by decide)
  · exact Nat.mod_lt _ (by decide)

structure Body (cfg : Cfg) (glo : SigTable) (win : List Nat) (n : Nat) (row : MsgRow) (toks : List Tok)
    (w1 : List Nat) (c : Cur) : Prop where
  put : Bits.put cfg ⟨.u, 16⟩ win 0 n 12 = .ok (w1, 12)
  good : Good ⟨w1, 12⟩
  len : w1.length = 1023
  enc : encFrag cfg glo row.frag toks ⟨w1, 12⟩ = .ok (c, [])
  ext : Ext ⟨w1, 12⟩ c
  clen : c.data.length = 1023
  hi : c.off ≤ 8184
  num : n < 4096 → (c.data.getD 0 0 <<< 4) ||| (c.data.getD 1 0 >>> 4) = n

theorem body_facts {cfg : Cfg} {glo : SigTable} {win w1 : List Nat} {n o1 : Nat} {row : MsgRow}
    {toks : List Tok} {c : Cur} (hwin : Good ⟨win, 0⟩) (hwl : win.length = 1023)
    (hwf : WFFrag row.frag = true) (hp : Bits.put cfg ⟨.u, 16⟩ win 0 n 12 = .ok (w1, o1))
    (he : encFrag cfg glo row.frag toks ⟨w1, o1⟩ = .ok (c, [])) : Body cfg glo win n row toks w1 c := by
  rcases put_total cfg ⟨.u, 16⟩ win 0 n 12 hwin with
    hq | ⟨d', hq, -, hl, hg, -⟩
  · rw [hq] at hp; cases hp
  · rw [hq] at hp
    cases hp
    have hE : Ext ⟨w1, 12⟩ c := (encFrag_sat cfg glo row.frag hwf toks ⟨w1, 12⟩ hg).of_ok he
    have hcl : c.data.length = 1023 := by have := hE.len; simp only at this; omega
    have hhi : c.off ≤ 8184 := by
      have := hE.fit (by simp only; omega)
      omega
    refine ⟨hq, hg, by omega, he, hE, hcl, hhi, fun hn => ?_⟩
    have gl : ∀ j, c.data.getD j 0 < 256 := by
      intro j
      rw [List.getD_eq_getElem?_getD]
      cases hj : c.data[j]? with
      | none => simp
      | some x => simpa using hE.good x (List.mem_of_getElem? hj)
    -- the number read from the two bytes is the 12-bit field at 0; the body encoder kept those bits, and
    -- `put` wrote there the wire value of `n`, which is `n`
    rw [← Bits.fieldValue_zero_twelve c.data (gl 0) (gl 1),
      Bits.fieldValue_ext (E := w1) (fun g _ hg' => hE.keep g (by simp only; omega)),
      Bits.fieldValue_put cfg ⟨.u, 16⟩ win 0 n 12 (by decide) (by omega) (show n < 2 ^ 16 by omega) hq,
      Bits.wireValue_u 16 (by omega)]

theorem build_ok_stages {cfg : Cfg} {tbl : List MsgRow} (htbl : ∀ row ∈ tbl, WFFrag row.frag = true)
    {glo : SigTable} {b : Builder} (hb : C09.BInv b) {m : Msg} {fr : List Nat}
    (h : (b.build cfg tbl glo m).2 = .ok fr) :
    ∃ n toks row w1 c, m = .typed n toks ∧ findRow tbl n = some row ∧
      Body cfg glo (window (workData b)) n row toks w1 c ∧
      fr = frameOf (payLen c) (c.data.take (payLen c)) := by
  obtain ⟨n, toks, row, w1, o1, c, rfl, hrow, hp, he, rfl⟩ := build_ok_iff.mp h
  obtain ⟨hg, hbt⟩ := hb.workData
  have B := body_facts (window_lt hbt) (window_length hg) (htbl row (List.mem_of_find?_eq_some hrow)) hp he
  exact ⟨n, toks, row, w1, c, rfl, hrow, B, sealed_take hg B.clen B.hi⟩

end Rtcm.Message
