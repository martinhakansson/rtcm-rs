import Rtcm.Model.Bits
/-!
What `put`, `parse` and the `BitValue` implementors are made of: the byte masks, `subU` / `shl` / `shr`
on their non-panicking branch, `ofInt` / `toInt` inside the range of the width, `>>` on a signed carrier.
-/
namespace Rtcm.Bits

/-- the widths under which `put` and `parse` are total: a carrier of 8 to 64 bits, a field of 1 to
`w` bits -/
structure Widths (w len : Nat) : Prop where
  w8 : 8 ≤ w
  w64 : w ≤ 64
  pos : 1 ≤ len
  le : len ≤ w

instance (w len : Nat) : Decidable (Widths w len) :=
  decidable_of_iff (8 ≤ w ∧ w ≤ 64 ∧ 1 ≤ len ∧ len ≤ w)
    ⟨fun ⟨a, b, c, d⟩ => ⟨a, b, c, d⟩, fun ⟨a, b, c, d⟩ => ⟨a, b, c, d⟩⟩

theorem testBit_mod256 (x t : Nat) : (x % 256).testBit t = (decide (t < 8) && x.testBit t) := by
  have : (256 : Nat) = 2 ^ 8 := by decide
  rw [this, Nat.testBit_mod_two_pow]

theorem testBit_255 (t : Nat) : (255 : Nat).testBit t = decide (t < 8) := by
  have : (255 : Nat) = 2 ^ 8 - 1 := by decide
  rw [this, Nat.testBit_two_pow_sub_one]

/-- `255u8 >> k` -/
theorem testBit_shr255 (k t : Nat) : (255 >>> k).testBit t = decide (k + t < 8) := by
  rw [Nat.testBit_shiftRight, testBit_255]

/-- `255u8 << k` -/
theorem testBit_shl255 (k t : Nat) : ((255 <<< k) % 256).testBit t = decide (k ≤ t ∧ t < 8) := by
  rw [testBit_mod256, Nat.testBit_shiftLeft, testBit_255, Bool.eq_iff_iff]
  simp only [Bool.and_eq_true, decide_eq_true_eq]
  omega

theorem testBit_false_of_lt_256 {x t : Nat} (hx : x < 256) (ht : 8 ≤ t) : x.testBit t = false := by
  apply Nat.testBit_lt_two_pow
  calc x < 2 ^ 8 := hx
    _ ≤ 2 ^ t := Nat.pow_le_pow_right (by decide) ht

theorem subU_ok (cfg : Cfg) {a b : Nat} (h : b ≤ a) : subU cfg a b = .ok (a - b) := by
  simp [subU, h]

theorem shl_ok (cfg : Cfg) {w k : Nat} (p : Nat) (h : k < w) :
    shl cfg w p k = .ok ((p <<< k) % 2 ^ w) := by
  simp [shl, h]

theorem shr_ok (cfg : Cfg) (sg : Bool) {w k : Nat} (p : Nat) (h : k < w) :
    shr cfg sg w p k = .ok (shrRaw sg w p k) := by
  simp [shr, h]

theorem testBit_shl (w p k t : Nat) :
    ((p <<< k) % 2 ^ w).testBit t = (decide (t < w) && (decide (k ≤ t) && p.testBit (t - k))) := by
  rw [Nat.testBit_mod_two_pow, Nat.testBit_shiftLeft]

theorem ofInt_natCast {w p : Nat} (hp : p < 2 ^ w) : ofInt w (p : Int) = p := by
  unfold ofInt
  rw [← Int.natCast_emod, Int.toNat_natCast, Nat.mod_eq_of_lt hp]

theorem ofInt_negSucc {w m : Nat} (hm : m < 2 ^ w) : ofInt w (Int.negSucc m) = 2 ^ w - (m + 1) := by
  unfold ofInt
  have hpos : (0 : Int) < ((2 ^ w : Nat) : Int) := by
    have := Nat.two_pow_pos w
    omega
  rw [Int.negSucc_emod _ hpos, ← Int.natCast_emod, Nat.mod_eq_of_lt hm]
  omega

theorem ofInt_lt (w : Nat) (z : Int) : ofInt w z < 2 ^ w := by
  unfold ofInt
  have hp : (0 : Int) < ((2 ^ w : Nat) : Int) := by exact_mod_cast Nat.two_pow_pos w
  have h1 := Int.emod_nonneg z (Int.ne_of_gt hp)
  have h2 := Int.emod_lt_of_pos z hp
  omega

theorem ofInt_toInt {w x : Nat} (hx : x < 2 ^ w) : ofInt w (toInt w x) = x := by
  unfold toInt ofInt
  have hp : (0 : Int) < ((2 ^ w : Nat) : Int) := by exact_mod_cast Nat.two_pow_pos w
  split
  · rw [Int.emod_eq_of_lt (by omega) (by omega)]
    omega
  · rw [Int.sub_emod_right, Int.emod_eq_of_lt (by omega) (by omega)]
    omega

theorem ofInt_of_nonneg {w : Nat} {z : Int} (h0 : 0 ≤ z) (h : z < ((2 ^ w : Nat) : Int)) :
    ((ofInt w z : Nat) : Int) = z := by
  unfold ofInt
  rw [Int.emod_eq_of_lt h0 h]
  omega

theorem toInt_ofInt {w : Nat} (hw : 0 < w) {z : Int} (h1 : -((2 ^ (w - 1) : Nat) : Int) ≤ z)
    (h2 : z < ((2 ^ (w - 1) : Nat) : Int)) : toInt w (ofInt w z) = z := by
  obtain ⟨v, rfl⟩ : ∃ v, w = v + 1 := ⟨w - 1, by omega⟩
  have e : ((2 ^ (v + 1) : Nat) : Int) = 2 * ((2 ^ v : Nat) : Int) := by
    rw [Nat.pow_succ]; omega
  unfold toInt ofInt
  rw [Nat.add_sub_cancel] at *
  rcases Int.lt_or_le z 0 with hz | hz
  · rw [← Int.add_emod_right, Int.emod_eq_of_lt (by omega) (by omega), if_neg (by omega)]
    omega
  · rw [Int.emod_eq_of_lt hz (by omega), if_pos (by omega)]
    omega

/-- `>>` is arithmetic on a signed carrier; below bit `w - k` it agrees with the logical shift -/
theorem testBit_shrRaw (sg : Bool) {w p k t : Nat} (hp : p < 2 ^ w) (h : t + k < w) :
    (shrRaw sg w p k).testBit t = p.testBit (t + k) := by
  unfold shrRaw
  cases sg
  · simp [Nat.testBit_shiftRight, Nat.add_comm]
  · simp only [if_true]
    unfold toInt
    split
    · rw [← Int.natCast_shiftRight, ofInt_natCast, Nat.testBit_shiftRight, Nat.add_comm]
      exact Nat.lt_of_le_of_lt (Nat.shiftRight_le _ _) hp
    · have e : (p : Int) - ((2 ^ w : Nat) : Int) = Int.negSucc (2 ^ w - (p + 1)) := by
        omega
      have hn : 2 ^ w - (p + 1) < 2 ^ w := by omega
      rw [e, Int.negSucc_shiftRight, ofInt_negSucc (Nat.lt_of_le_of_lt (Nat.shiftRight_le _ _) hn),
        Nat.testBit_two_pow_sub_succ (Nat.lt_of_le_of_lt (Nat.shiftRight_le _ _) hn),
        Nat.testBit_shiftRight, Nat.testBit_two_pow_sub_succ hp]
      have : t < w := by omega
      simp [this, Nat.add_comm]
      omega

theorem pure_eq_ok {α} (a : α) : (pure a : Res α) = .ok a := rfl

end Rtcm.Bits
