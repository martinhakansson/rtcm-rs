import Rtcm.Model.BuilderGen
import Rtcm.Proofs.EncInvariants
/-!
`Builder.build` is a prologue (the buffer after `if has_run { clear_data() }`, the 12-bit number into the
assembler's slice `data[3..1026]`), a body (the row's encoder) and an epilogue (length header and CRC
written around the slice).  The stages are named here, and `build_message` / `from_message_frame` restated as a
match over them.

Length, sync byte and byte bound of the buffer survive every stage whatever the body encoder does: that
it is made of `put`s is all that matters (`PutInv`).
-/
namespace Rtcm.Message
open Rtcm.Schema Rtcm.Interp

/-- `if self.has_run { self.clear_data() }`: the buffer a call starts from -/
def workData (b : Builder) : List Nat := if b.hasRun then clearData b.data else b.data

/-- the assembler's window `data[3..1026]` -/
def window (d : List Nat) : List Nat := (d.drop 3).take 1023

def putBack (d w : List Nat) : List Nat := d.take 3 ++ w ++ d.drop 1026

/-- `data_len = (asm.offset() - 1) / 8 + 1` -/
def payLen (c : Cur) : Nat := (c.off - 1) / 8 + 1

/-- `8184 = 8 * 1023`: the cursor is inside the window -/
theorem payLen_bounds {c : Cur} (hlo : 12 ≤ c.off) (hhi : c.off ≤ 8184) :
    2 ≤ payLen c ∧ payLen c ≤ 1023 ∧ c.off ≤ 8 * payLen c := by
  unfold payLen; omega

/-- the buffer after the epilogue (`data[1]`, `data[2]`, the three CRC bytes behind `data_len + 3`) -/
def sealed (d : List Nat) (c : Cur) : List Nat :=
  let d2 := ((putBack d c.data).set 1 ((payLen c >>> 8) % 256)).set 2 (payLen c % 256)
  let crc := crc24q ((d2.take (payLen c + 3)).map UInt8.ofNat)
  ((d2.set (payLen c + 3) ((crc >>> 16) % 256)).set (payLen c + 4) ((crc >>> 8) % 256)).set
    (payLen c + 5) (crc % 256)

/-- the frame the builder assembles around `L` payload bytes `P` -/
def frameOf (L : Nat) (P : List Nat) : List Nat :=
  let hdr := [0xd3, (L >>> 8) % 256, L % 256]
  let crc := crc24q ((hdr ++ P).map UInt8.ofNat)
  hdr ++ P ++ [(crc >>> 16) % 256, (crc >>> 8) % 256, crc % 256]

theorem build_typed (cfg : Cfg) (tbl : List MsgRow) (glo : SigTable) (b : Builder) (n : Nat) (toks : List Tok) :
    b.build cfg tbl glo (.typed n toks) =
      match findRow tbl n with
      | none => (⟨workData b, true⟩, .err .encodingNotSupported)
      | some row =>
        match Bits.put cfg ⟨.u, 16⟩ (window (workData b)) 0 n 12 with
        | .ok (w1, o1) =>
          match encFrag cfg glo row.frag toks ⟨w1, o1⟩ with
          | .ok (c, rest) =>
            if !rest.isEmpty then (⟨putBack (workData b) c.data, true⟩, .panic "tokens: trailing tokens")
            else (⟨sealed (workData b) c, true⟩, .ok ((sealed (workData b) c).take (payLen c + 6)))
          | .err e => (⟨putBack (workData b) w1, true⟩, .err e)
          | .panic w => (⟨putBack (workData b) w1, true⟩, .panic w)
        | .err e => (⟨workData b, true⟩, .err e)
        | .panic w => (⟨workData b, true⟩, .panic w) := by
  -- the model tests `number tbl m` (is there a row?) before it writes the number and looks the row up
  -- after; once the lookup is known both are decided, so it can stand in front, and the model's inner
  -- `none` branch is dead; the rest is the model's body with the stages named
  cases hrow : findRow tbl n with
  | none => simp only [Builder.build, number, hrow]; rfl
  | some row =>
    simp only [Builder.build, number, hrow, Option.isSome_some, if_true]
    rfl

theorem buildGen_eq (cfg : Cfg) (b : Builder) (n : Nat) (w : Option BodyWriter) :
    b.buildGen cfg n w =
      match Bits.put cfg ⟨.u, 16⟩ (window (workData b)) 0 n 12 with
      | .ok (w1, o1) =>
        match w with
        | some body =>
          match body ⟨w1, o1⟩ with
          | .ok c => (⟨sealed (workData b) c, true⟩, .ok ((sealed (workData b) c).take (payLen c + 6)))
          | .err e => (⟨putBack (workData b) w1, true⟩, .err e)
          | .panic s => (⟨putBack (workData b) w1, true⟩, .panic s)
        | none => (⟨putBack (workData b) w1, true⟩, .err .encodingNotSupported)
      | .err e => (⟨workData b, true⟩, .err e)
      | .panic s => (⟨workData b, true⟩, .panic s) := rfl

theorem build_congr {b b' : Builder} (h : workData b = workData b') (cfg : Cfg) (tbl : List MsgRow)
    (glo : SigTable) (m : Msg) : b.build cfg tbl glo m = b'.build cfg tbl glo m := by
  unfold workData at h
  unfold Builder.build
  simp only [h]

theorem buildGen_congr {b b' : Builder} (h : workData b = workData b') (cfg : Cfg) (n : Nat)
    (w : Option BodyWriter) : b.buildGen cfg n w = b'.buildGen cfg n w := by
  rw [buildGen_eq, buildGen_eq, h]

theorem build_untyped (cfg : Cfg) (tbl : List MsgRow) (glo : SigTable) (b : Builder) (m : Msg)
    (h : ∀ n toks, m ≠ .typed n toks) :
    b.build cfg tbl glo m = (⟨workData b, true⟩, .err .encodingNotSupported) := by
  cases m with
  | typed n toks => exact absurd rfl (h n toks)
  | _ => rfl

theorem build_ok_iff {cfg : Cfg} {tbl : List MsgRow} {glo : SigTable} {b : Builder} {m : Msg} {fr : List Nat} :
    (b.build cfg tbl glo m).2 = .ok fr ↔
      ∃ n toks row w1 o1 c, m = .typed n toks ∧ findRow tbl n = some row ∧
        Bits.put cfg ⟨.u, 16⟩ (window (workData b)) 0 n 12 = .ok (w1, o1) ∧
        encFrag cfg glo row.frag toks ⟨w1, o1⟩ = .ok (c, []) ∧
        fr = (sealed (workData b) c).take (payLen c + 6) := by
  constructor
  · intro h
    by_cases hm : ∃ n toks, m = .typed n toks
    · obtain ⟨n, toks, rfl⟩ := hm
      rw [build_typed] at h
      split at h
      · cases h
      · next row hrow =>
        split at h
        · next w1 o1 hp =>
          split at h
          · next c rest he =>
            cases rest with
            | nil => cases h; exact ⟨n, toks, row, w1, o1, c, rfl, hrow, hp, he, rfl⟩
            | cons _ _ => cases h
          · cases h
          · cases h
        · cases h
        · cases h
    · rw [build_untyped cfg tbl glo b m fun n toks e => hm ⟨n, toks, e⟩] at h
      cases h
  · rintro ⟨n, toks, row, w1, o1, c, rfl, hrow, hp, he, rfl⟩
    rw [build_typed]
    simp only [hrow, hp, he]
    rfl

theorem _root_.Rtcm.PutInv.and {R S : Cur → Cur → Prop} (hR : PutInv R) (hS : PutInv S) :
    PutInv fun c c' => R c c' ∧ S c c' where
  refl c := ⟨hR.refl c, hS.refl c⟩
  trans h1 h2 := ⟨hR.trans h1.1 h2.1, hS.trans h1.2 h2.2⟩
  put cfg it c v len d o h := ⟨hR.put cfg it c v len d o h, hS.put cfg it c v len d o h⟩

theorem build_fst {R : Cur → Cur → Prop} (hR : PutInv R) (cfg : Cfg) (tbl : List MsgRow) (glo : SigTable)
    (b : Builder) (m : Msg) :
    ∃ d, (b.build cfg tbl glo m).1 = ⟨d, true⟩ ∧
      (d = workData b ∨ ∃ c, R ⟨window (workData b), 0⟩ c ∧
        (d = putBack (workData b) c.data ∨ d = sealed (workData b) c)) := by
  by_cases hm : ∃ n toks, m = .typed n toks
  · obtain ⟨n, toks, rfl⟩ := hm
    rw [build_typed]
    split
    · exact ⟨_, rfl, .inl rfl⟩
    · split
      · next w1 o1 hp =>
        have r1 := hR.put cfg _ ⟨_, 0⟩ _ _ _ _ hp
        split
        · next c rest he =>
          have r2 := hR.trans r1 ((encFrag_rel hR cfg glo _ _ _).of_ok he)
          split
          · exact ⟨_, rfl, .inr ⟨c, r2, .inl rfl⟩⟩
          · exact ⟨_, rfl, .inr ⟨c, r2, .inr rfl⟩⟩
        · exact ⟨_, rfl, .inr ⟨_, r1, .inl rfl⟩⟩
        · exact ⟨_, rfl, .inr ⟨_, r1, .inl rfl⟩⟩
      · exact ⟨_, rfl, .inl rfl⟩
      · exact ⟨_, rfl, .inl rfl⟩
  · rw [build_untyped cfg tbl glo b m fun n toks e => hm ⟨n, toks, e⟩]
    exact ⟨_, rfl, .inl rfl⟩

def GoodBuf (d : List Nat) : Prop := d.length = 1029 ∧ d.head? = some 0xd3

theorem GoodBuf.getD {d : List Nat} (h : GoodBuf d) : d.getD 0 0 = 0xd3 := by
  cases d with
  | nil => cases h.2
  | cons x xs => cases h.2; rfl

theorem goodBuf_of_getD {d : List Nat} (hl : d.length = 1029) (hh : d.getD 0 0 = 0xd3) : GoodBuf d := by
  cases d with
  | nil => cases hl
  | cons x xs => exact ⟨hl, congrArg some hh⟩

theorem window_length {d : List Nat} (h : GoodBuf d) : (window d).length = 1023 := by
  simp only [window, List.length_take, List.length_drop, h.1]
  omega

theorem goodBuf_putBack {d w : List Nat} (h : GoodBuf d) (hw : w.length = 1023) : GoodBuf (putBack d w) := by
  obtain ⟨hl, hh⟩ := h
  constructor
  · simp only [putBack, List.length_append, List.length_take, List.length_drop, hl, hw]
    omega
  · cases d with
    | nil => simp at hl
    | cons x xs => simpa [putBack] using hh

theorem goodBuf_set {d : List Nat} (h : GoodBuf d) (n x : Nat) : GoodBuf (d.set (n + 1) x) := by
  obtain ⟨hl, hh⟩ := h
  constructor
  · simpa using hl
  · cases d with
    | nil => simp at hl
    | cons y ys => simpa using hh

theorem goodBuf_sealed {d : List Nat} (h : GoodBuf d) {c : Cur} (hc : c.data.length = 1023) :
    GoodBuf (sealed d c) :=
  goodBuf_set (goodBuf_set (goodBuf_set (goodBuf_set (goodBuf_set (goodBuf_putBack h hc) 0 _) 1 _)
    (payLen c + 2) _) (payLen c + 3) _) (payLen c + 4) _

theorem set_lt {l : List Nat} (hl : ∀ y ∈ l, y < 256) (i : Nat) {v : Nat} (hv : v < 256) :
    ∀ y ∈ l.set i v, y < 256 :=
  fun y hy => (List.mem_or_eq_of_mem_set hy).elim (hl y) (· ▸ hv)

theorem putBack_lt {d w : List Nat} (hd : ∀ x ∈ d, x < 256) (hw : ∀ x ∈ w, x < 256) :
    ∀ x ∈ putBack d w, x < 256 := by
  intro x hx
  simp only [putBack, List.mem_append] at hx
  rcases hx with (hx | hx) | hx
  · exact hd x (List.mem_of_mem_take hx)
  · exact hw x hx
  · exact hd x (List.mem_of_mem_drop hx)

theorem sealed_lt {d : List Nat} {c : Cur} (hd : ∀ x ∈ d, x < 256) (hc : ∀ x ∈ c.data, x < 256) :
    ∀ x ∈ sealed d c, x < 256 :=
  have m (k : Nat) : k % 256 < 256 := Nat.mod_lt _ (by decide)
  set_lt (set_lt (set_lt (set_lt (set_lt (putBack_lt hd hc) _ (m _)) _ (m _)) _ (m _)) _ (m _)) _ (m _)

theorem window_lt {d : List Nat} (hd : ∀ x ∈ d, x < 256) : ∀ x ∈ window d, x < 256 :=
  fun x hx => hd x (List.mem_of_mem_drop (List.mem_of_mem_take hx))

theorem clearData_lt (d : List Nat) (h : ∀ x ∈ d, x < 256) : ∀ x ∈ clearData d, x < 256 := by
  intro x hx
  unfold clearData at hx
  rcases List.mem_append.mp hx with hx | hx
  · exact h x (List.mem_of_mem_take hx)
  · have := List.eq_of_mem_replicate hx
    omega

theorem workData_lt (b : Builder) (h : ∀ x ∈ b.data, x < 256) : ∀ x ∈ workData b, x < 256 := by
  unfold workData
  split
  · exact clearData_lt _ h
  · exact h

theorem goodBuf_clearData {d : List Nat} (h : GoodBuf d) : GoodBuf (clearData d) := by
  obtain ⟨hl, hh⟩ := h
  cases d with
  | nil => cases hl
  | cons x xs =>
    simp only [List.length_cons] at hl
    exact ⟨by simp [clearData]; omega, by simpa [clearData] using hh⟩

theorem goodBuf_workData {b : Builder} (h : GoodBuf b.data) : GoodBuf (workData b) := by
  unfold workData
  split
  · exact goodBuf_clearData h
  · exact h

theorem findRow_number {tbl : List MsgRow} {n : Nat} {row : MsgRow} (h : findRow tbl n = some row) :
    row.number = n := by
  have := List.find?_some h
  simpa using this

/-- `from_message_frame`, outcome by outcome; on success trailing bits are ignored -/
theorem decodeFrame_cases (cfg : Cfg) (tbl : List MsgRow) (f : Frame) :
    (f.number = none ∧ decodeFrame cfg tbl f = .ok .empty) ∨
    ∃ n, f.number = some n ∧
      ((findRow tbl n = none ∧ decodeFrame cfg tbl f = .ok (.notSupported n)) ∨
        ∃ row, findRow tbl n = some row ∧
          ((∃ toks c', decFrag cfg row.frag { data := f.data.map (·.toNat), off := 12 } = .ok (toks, c') ∧
              decodeFrame cfg tbl f = .ok (.typed n toks)) ∨
            (∃ e, decFrag cfg row.frag { data := f.data.map (·.toNat), off := 12 } = .err e ∧
              decodeFrame cfg tbl f = .ok .corrupt) ∨
            ∃ w, decFrag cfg row.frag { data := f.data.map (·.toNat), off := 12 } = .panic w ∧
              decodeFrame cfg tbl f = .panic w)) := by
  unfold decodeFrame
  cases f.number with
  | none => exact .inl ⟨rfl, rfl⟩
  | some n =>
    refine .inr ⟨n, rfl, ?_⟩
    dsimp only
    cases findRow tbl n with
    | none => exact .inl ⟨rfl, rfl⟩
    | some row =>
      refine .inr ⟨row, rfl, ?_⟩
      dsimp only
      cases decFrag cfg row.frag { data := f.data.map (·.toNat), off := 12 } with
      | ok p => exact .inl ⟨p.1, p.2, rfl, rfl⟩
      | err e => exact .inr (.inl ⟨e, rfl, rfl⟩)
      | panic w => exact .inr (.inr ⟨w, rfl, rfl⟩)

theorem decodeFrame_typed_iff {cfg : Cfg} {tbl : List MsgRow} {f : Frame} {n : Nat} {toks : List Tok} :
    decodeFrame cfg tbl f = .ok (.typed n toks) ↔
      f.number = some n ∧ ∃ row c', findRow tbl n = some row ∧
        decFrag cfg row.frag { data := f.data.map (·.toNat), off := 12 } = .ok (toks, c') := by
  unfold decodeFrame
  constructor
  · intro h
    split at h
    · cases h
    · next k hk =>
      split at h
      · cases h
      · next row hrow =>
        split at h
        · next t c' e => cases h; exact ⟨hk, row, c', hrow, e⟩
        · cases h
        · cases h
  · rintro ⟨hn, row, c', hrow, e⟩
    simp only [hn, hrow, e]

end Rtcm.Message

namespace Rtcm.C09
open Rtcm.Message

structure BInv (b : Builder) : Prop where
  len : b.data.length = 1029
  bytes : ∀ x ∈ b.data, x < 256
  head : b.data.getD 0 0 = 0xd3

theorem binv_new : BInv Builder.new := by
  refine ⟨?_, ?_, ?_⟩
  · show (0xd3 :: List.replicate 1028 0).length = 1029
    rw [List.length_cons, List.length_replicate]
  · intro x hx
    have hx' : x ∈ 0xd3 :: List.replicate 1028 0 := hx
    rcases List.mem_cons.mp hx' with rfl | hx'
    · decide
    · have := List.eq_of_mem_replicate hx'; omega
  · rfl

theorem BInv.workData {b : Builder} (hb : BInv b) :
    GoodBuf (workData b) ∧ ∀ x ∈ workData b, x < 256 :=
  ⟨goodBuf_workData (goodBuf_of_getD hb.len hb.head), workData_lt b hb.bytes⟩

theorem binv_of_goodBuf {d : List Nat} (hg : GoodBuf d) (hb : ∀ x ∈ d, x < 256) (r : Bool) : BInv ⟨d, r⟩ :=
  ⟨hg.1, hb, hg.getD⟩

end Rtcm.C09
