import Rtcm.Proofs.BitPrim
import Rtcm.Proofs.ResLaws
/-!
The byte loops of `Assembler::put` and `Parser::parse`, in positions counted from the start of the
first byte touched: the field is `lhSt ..< lhSt + len`, bit `t` of byte `i` is position `8 i + 7 - t`
and carries bit `m` of the value when `t + (lhSt + len) = m + 8 (i + 1)`. Loop invariant: byte `i` is
entered with `lenlft + max lhSt (8 i) = lhSt + len` and left with `lenlft = lhSt + len - 8 (i + 1)`;
stated with `+` and one `max` because every truncated subtraction, `min` or `max` in a goal or in the
context doubles the work of `omega`. Division by 8 occurs only where the prologue is connected with
`off` and in the `bitAt` lemmas; the step and loop lemmas are free of it.
-/
namespace Rtcm.Bits

theorem bitAt_cons (d : Nat) (ds : List Nat) (p : Nat) :
    bitAt (d :: ds) p = if p < 8 then d.testBit (7 - p) else bitAt ds (p - 8) := by
  unfold bitAt
  split
  · next h => rw [Nat.div_eq_of_lt h, Nat.mod_eq_of_lt h]; rfl
  · next h =>
    have e1 : p / 8 = (p - 8) / 8 + 1 := by omega
    have e2 : p % 8 = (p - 8) % 8 := by omega
    rw [e1, e2, List.getD_cons_succ]

theorem bitAt_drop (data : List Nat) (q p : Nat) : bitAt (data.drop q) p = bitAt data (8 * q + p) := by
  unfold bitAt
  have e1 : (8 * q + p) / 8 = q + p / 8 := by omega
  have e2 : (8 * q + p) % 8 = p % 8 := by omega
  rw [e1, e2, List.getD_eq_getElem?_getD, List.getD_eq_getElem?_getD, List.getElem?_drop]

theorem bitAt_take_append {data out : List Nat} {q : Nat} (hq : q ≤ data.length) (g : Nat) :
    bitAt (data.take q ++ out) g = if g < 8 * q then bitAt data g else bitAt out (g - 8 * q) := by
  unfold bitAt
  have e : (data.take q ++ out).getD (g / 8) 0
      = if g / 8 < q then data.getD (g / 8) 0 else out.getD (g / 8 - q) 0 := by
    simp only [List.getD_eq_getElem?_getD, List.getElem?_append, List.length_take,
      Nat.min_eq_left hq]
    split
    · rw [List.getElem?_take, if_pos ‹_›]
    · rfl
  rw [e]
  have e1 : (g - 8 * q) / 8 = g / 8 - q := by omega
  by_cases h : g < 8 * q
  · rw [if_pos h, if_pos (by omega)]
  · have e2 : (g - 8 * q) % 8 = g % 8 := by omega
    rw [if_neg h, if_neg (by omega), e1, e2]

theorem byte_ext {a b : List Nat} {j : Nat} (h1 : j < a.length) (h2 : j < b.length)
    (ha : a[j] < 256) (hb : b[j] < 256)
    (h : ∀ g, 8 * j ≤ g → g < 8 * j + 8 → bitAt a g = bitAt b g) : a[j] = b[j] := by
  apply Nat.eq_of_testBit_eq
  intro t
  by_cases ht : t < 8
  · have := h (8 * j + (7 - t)) (by omega) (by omega)
    unfold bitAt at this
    have e1 : (8 * j + (7 - t)) / 8 = j := by omega
    have e2 : 7 - (8 * j + (7 - t)) % 8 = t := by omega
    rw [e1, e2] at this
    simpa [List.getD_eq_getElem?_getD, List.getElem?_eq_getElem h1, List.getElem?_eq_getElem h2] using this
  · rw [testBit_false_of_lt_256 ha (by omega), testBit_false_of_lt_256 hb (by omega)]

theorem bytes_ext {a b : List Nat} (hl : a.length = b.length) (ha : ∀ d ∈ a, d < 256)
    (hb : ∀ d ∈ b, d < 256) (h : ∀ g, bitAt a g = bitAt b g) : a = b :=
  List.ext_getElem hl fun _ h1 h2 =>
    byte_ext h1 h2 (ha _ (List.getElem_mem h1)) (hb _ (List.getElem_mem h2)) fun g _ _ => h g

/-! What every successful `put` or `parse` tells, with no hypothesis on `len`, the carrier, the value
or the build profile: read off the shape of the code (the loop maps over `data[sti..]`, every new
byte is `d & _ | _ & (_ as u8)`, and the mask of loop index 0 is below `0xff >> lhSt`). -/

theorem put_of_ok {cfg : Cfg} {it : IT} {data : List Nat} {off v len : Nat} {d' : List Nat} {o : Nat}
    (h : put cfg it data off v len = .ok (d', o)) :
    ∃ value s tail, setup cfg off len = .ok s ∧ off + len ≤ data.length * 8 ∧
      putLoop cfg it s value 0 len (data.drop s.sti) = .ok tail ∧
      d' = data.take s.sti ++ tail ∧ o = off + len := by
  unfold put at h
  split at h
  · simp at h
  next hfit =>
  split at h
  · simp at h
  obtain ⟨value, _, h⟩ := Res.bind_eq_ok h
  obtain ⟨s, hs, h⟩ := Res.bind_eq_ok h
  obtain ⟨tail, ht, h⟩ := Res.bind_eq_ok h
  cases h
  exact ⟨value, s, tail, hs, by omega, ht, rfl, rfl⟩

theorem parse_of_ok {cfg : Cfg} {it : IT} {data : List Nat} {off len v o : Nat}
    (h : parse cfg it data off len = .ok (v, o)) : o = off + len ∧ off + len ≤ 8 * data.length := by
  unfold parse at h
  split at h
  · simp at h
  next hfit =>
  split at h
  · simp at h
  obtain ⟨s, _, h⟩ := Res.bind_eq_ok h
  obtain ⟨val, _, h⟩ := Res.bind_eq_ok h
  obtain ⟨x, _, h⟩ := Res.bind_eq_ok h
  cases h
  exact ⟨rfl, by omega⟩

/-- `*d &= !bset | bval; *d |= bset & bval` -/
theorem putStep_of_ok {cfg : Cfg} {it : IT} {s : Setup} {value i l d : Nat} {r : Nat × Nat}
    (h : putStep cfg it s value i l d = .ok r) :
    ∃ bset nbits bpos tval, byteGeom cfg s i = .ok (bset, nbits, bpos) ∧
      r.1 = d &&& ((255 ^^^ bset) ||| valCast tval) ||| (bset &&& valCast tval) := by
  unfold putStep at h
  obtain ⟨⟨bset, nbits, bpos⟩, hg, h⟩ := Res.bind_eq_ok h
  simp only [] at h
  obtain ⟨l2, _, h⟩ := Res.bind_eq_ok h
  obtain ⟨tval, _, h⟩ := Res.bind_eq_ok h
  cases h
  exact ⟨bset, nbits, bpos, tval, hg, rfl⟩

theorem putLoop_forall {cfg : Cfg} {it : IT} {s : Setup} {value : Nat} {P : Nat → Prop}
    (hstep : ∀ {i l d r}, putStep cfg it s value i l d = .ok r → P d → P r.1)
    (ds : List Nat) (i l : Nat) (out : List Nat) (h : putLoop cfg it s value i l ds = .ok out) :
    out.length = ds.length ∧ ((∀ d ∈ ds, P d) → ∀ d ∈ out, P d) := by
  fun_induction putLoop cfg it s value i l ds generalizing out with
  | case1 => cases h; exact ⟨rfl, id⟩
  | case2 i l d ds _ ih =>
    obtain ⟨r, hr, h⟩ := Res.bind_eq_ok h
    obtain ⟨rest, hrest, h⟩ := Res.bind_eq_ok h
    cases h
    obtain ⟨hl, hp⟩ := ih r rest hrest
    refine ⟨by simp [hl], fun hb x hx => ?_⟩
    rcases List.mem_cons.1 hx with rfl | hx
    · exact hstep hr (hb d (by simp))
    · exact hp (fun y hy => hb y (by simp [hy])) x hx
  | case3 => cases h; exact ⟨rfl, id⟩

theorem put_length {cfg : Cfg} {it : IT} {data : List Nat} {off v len : Nat} {d' : List Nat} {o : Nat}
    (h : put cfg it data off v len = .ok (d', o)) : d'.length = data.length := by
  obtain ⟨value, s, tail, _, _, ht, rfl, _⟩ := put_of_ok h
  simp only [List.length_append, List.length_take, List.length_drop,
    (putLoop_forall (P := fun _ => True) (fun _ _ => trivial) _ _ _ _ ht).1]
  omega

theorem putStep_byte {cfg : Cfg} {it : IT} {s : Setup} {value i l d : Nat} {r : Nat × Nat}
    (h : putStep cfg it s value i l d = .ok r) (hd : d < 256) : r.1 < 256 := by
  obtain ⟨bset, nbits, bpos, tval, _, hr⟩ := putStep_of_ok h
  have e : (256 : Nat) = 2 ^ 8 := by decide
  rw [hr, valCast, e]
  apply Nat.or_lt_two_pow
  · exact Nat.lt_of_le_of_lt Nat.and_le_left (e ▸ hd)
  · exact Nat.lt_of_le_of_lt Nat.and_le_right (Nat.mod_lt _ (by decide))

theorem put_bytes {cfg : Cfg} {it : IT} {data : List Nat} {off v len : Nat} {d' : List Nat} {o : Nat}
    (h : put cfg it data off v len = .ok (d', o)) (hdata : ∀ d ∈ data, d < 256) : ∀ d ∈ d', d < 256 := by
  obtain ⟨value, s, tail, _, _, ht, rfl, _⟩ := put_of_ok h
  intro x hx
  rcases List.mem_append.1 hx with hx | hx
  · exact hdata x (List.mem_of_mem_take hx)
  · exact (putLoop_forall putStep_byte _ _ _ _ ht).2
      (fun y hy => hdata y (List.mem_of_mem_drop hy)) x hx

theorem setup_fields {cfg : Cfg} {off len : Nat} {s : Setup} (h : setup cfg off len = .ok s) :
    s.lhSt = off % 8 ∧ s.sti = off / 8 := by
  unfold setup at h
  obtain ⟨e, _, h⟩ := Res.bind_eq_ok h
  obtain ⟨d, _, h⟩ := Res.bind_eq_ok h
  cases h
  exact ⟨rfl, rfl⟩

theorem byteGeom_zero_mask {cfg : Cfg} {s : Setup} {bset nbits bpos : Nat}
    (h : byteGeom cfg s 0 = .ok (bset, nbits, bpos)) (t : Nat) (ht : 8 ≤ t + s.lhSt) :
    bset.testBit t = false := by
  unfold byteGeom at h
  simp only [if_true] at h
  obtain ⟨p, hp, h⟩ := Res.bind_eq_ok h
  obtain ⟨n, _, hp⟩ := Res.bind_eq_ok hp
  cases hp
  simp only [] at h
  obtain ⟨dl1, _, h⟩ := Res.bind_eq_ok h
  have hm : (255 &&& 255 >>> s.lhSt).testBit t = false := by
    rw [Nat.testBit_and, testBit_shr255, decide_eq_false (by omega), Bool.and_false]
  split at h
  · obtain ⟨n2, _, h⟩ := Res.bind_eq_ok h
    cases h
    rw [Nat.testBit_and, hm, Bool.false_and]
  · cases h
    exact hm

theorem testBit_merge (d bset bval : Nat) {t : Nat} (ht : t < 8) :
    (d &&& ((255 ^^^ bset) ||| bval) ||| (bset &&& bval)).testBit t
      = if bset.testBit t then bval.testBit t else d.testBit t := by
  simp only [Nat.testBit_or, Nat.testBit_and, Nat.testBit_xor, testBit_255, ht, decide_true]
  cases bset.testBit t <;> cases bval.testBit t <;> cases d.testBit t <;> rfl

theorem putStep_zero_keep {cfg : Cfg} {it : IT} {s : Setup} {value l d : Nat} {r : Nat × Nat}
    (h : putStep cfg it s value 0 l d = .ok r) (t : Nat) (ht8 : t < 8) (ht : 8 ≤ t + s.lhSt) :
    r.1.testBit t = d.testBit t := by
  obtain ⟨bset, nbits, bpos, tval, hg, hr⟩ := putStep_of_ok h
  rw [hr, testBit_merge _ _ _ ht8, byteGeom_zero_mask hg t ht, if_neg Bool.false_ne_true]

theorem putLoop_zero_keep {cfg : Cfg} {it : IT} {s : Setup} {value l : Nat} {ds out : List Nat}
    (h : putLoop cfg it s value 0 l ds = .ok out) (p : Nat) (hp : p < s.lhSt) (h8 : s.lhSt ≤ 8) :
    bitAt out p = bitAt ds p := by
  cases ds with
  | nil => cases h; rfl
  | cons d ds =>
    unfold putLoop at h
    split at h
    · obtain ⟨r, hr, h⟩ := Res.bind_eq_ok h
      obtain ⟨rest, _, h⟩ := Res.bind_eq_ok h
      cases h
      rw [bitAt_cons, bitAt_cons, if_pos (by omega), if_pos (by omega)]
      exact putStep_zero_keep hr (7 - p) (by omega) (by omega)
    · cases h; rfl

theorem put_below {cfg : Cfg} {it : IT} {data : List Nat} {off v len : Nat} {d' : List Nat} {o : Nat}
    (h : put cfg it data off v len = .ok (d', o)) :
    o = off + len ∧ ∀ g, g < off → bitAt d' g = bitAt data g := by
  obtain ⟨value, s, tail, hs, hfit, ht, rfl, rfl⟩ := put_of_ok h
  obtain ⟨hlh, hsti⟩ := setup_fields hs
  refine ⟨rfl, fun g hg => ?_⟩
  rw [bitAt_take_append (by omega)]
  split
  · rfl
  · rw [putLoop_zero_keep ht _ (by omega) (by omega), bitAt_drop]
    congr 1
    omega

/-- the prologue values in closed form -/
def setupOf (off len : Nat) : Setup :=
  { lhSt := off % 8, rhEn := (8 - (off + len) % 8) % 8, sti := off / 8, dlen := (off + len - 1) / 8 - off / 8 + 1 }

theorem setup_ok (cfg : Cfg) {off len : Nat} (h1 : 1 ≤ len) (h64 : len ≤ 64) :
    setup cfg off len = .ok (setupOf off len) := by
  unfold setup
  have ha : 1 ≤ off + len := by omega
  have hb : off / 8 ≤ (off + len - 1) / 8 := by omega
  simp only [subU_ok cfg ha, subU_ok cfg hb, Res.bind_ok, setupOf]
  have : ((off + len - 1) / 8 - off / 8 + 1) % 2 ^ usizeBits = (off + len - 1) / 8 - off / 8 + 1 := by
    apply Nat.mod_eq_of_lt
    have : (2:Nat) ^ usizeBits = 18446744073709551616 := by decide
    omega
  rw [this]

/-- what the prologue establishes: the field starts `lhSt` bits into its first byte, ends `rhEn`
bits before the end of its last, and touches `dlen` bytes -/
structure Geom (s : Setup) (len : Nat) : Prop where
  lh : s.lhSt < 8
  rh : s.rhEn < 8
  pos : 1 ≤ len
  span : s.lhSt + len + s.rhEn = 8 * s.dlen

theorem setupOf_geom {off len : Nat} (h1 : 1 ≤ len) : Geom (setupOf off len) len where
  lh := Nat.mod_lt _ (by decide)
  rh := Nat.mod_lt _ (by decide)
  pos := h1
  -- `off + len + rhEn` is the next multiple of 8, and `dlen` counts the bytes from `off / 8` up to it
  span := by
    show off % 8 + len + (8 - (off + len) % 8) % 8 = 8 * ((off + len - 1) / 8 - off / 8 + 1)
    omega

theorem setupOf_fits {data : List Nat} {off len : Nat} (h1 : 1 ≤ len)
    (hfit : off + len ≤ 8 * data.length) :
    (setupOf off len).dlen ≤ (data.drop (off / 8)).length := by
  simp only [setupOf, List.length_drop]
  omega

/-- bit `t` of byte `i` and bit `m` of the value are the same position of the field when
`t + (lhSt + len) = m + 8 (i+1)`; for such a pair, `t` is under the mask of byte `i` exactly when
`m` is below the `lenlft` the step starts with -/
theorem mask_iff {a e i L t m : Nat} (hL : L + max a (8 * i) = e) (h : t + e = m + 8 * (i + 1)) :
    (t < 8 ∧ a + t < 8 * (i + 1) ∧ 8 * (i + 1) ≤ e + t) ↔ m < L := by
  omega

/-- What `putStep` and `parseStep` have in common, for byte `i` entered with `lenlft = L`. With
`L' = lhSt + len - 8 (i + 1)`, the `lenlft` the step leaves: the mask selects the bits of the byte that
lie in the field; `L' + nbits = L`, so `lenlft - nbits` does not underflow; `L'` and `bpos` measure how
far the field reaches beyond the byte or stops short of its end (`L' + 8 (i + 1) = lhSt + len + bpos`,
one of the two is 0), so the shift amount `|bpos - L'|` is `bpos < 8` or `L' < len`. -/
theorem stepGeom (cfg : Cfg) {s : Setup} {len i L : Nat} (hg : Geom s len) (hi : i < s.dlen)
    (hL : L + max s.lhSt (8 * i) = s.lhSt + len) :
    ∃ bset nbits bpos, byteGeom cfg s i = .ok (bset, nbits, bpos) ∧
      (∀ t, bset.testBit t =
        decide (t < 8 ∧ s.lhSt + t < 8 * (i + 1) ∧ 8 * (i + 1) ≤ s.lhSt + len + t)) ∧
      1 ≤ nbits ∧ L ≤ len ∧ bpos < 8 ∧ s.lhSt + len - 8 * (i + 1) + nbits = L ∧
      s.lhSt + len - 8 * (i + 1) + 8 * (i + 1) = s.lhSt + len + bpos ∧
      (bpos = 0 ∨ s.lhSt + len - 8 * (i + 1) = 0) := by
  obtain ⟨hlh, hrh, h1, hsp⟩ := hg
  unfold byteGeom
  simp only []
  rw [subU_ok cfg (show 1 ≤ s.dlen by omega)]
  -- Four rows: byte `i` is the first touched (`i = 0`, where `L = len` by `hL`; later
  -- `L = lhSt + len - 8 i`) and / or the last (`i + 1 = dlen`, where `span` reads
  -- `lhSt + len + rhEn = 8 (i + 1)`). `(nbits, bpos)` is `(8 - lhSt - rhEn, rhEn)`, `(8 - lhSt, 0)`,
  -- `(8 - rhEn, rhEn)`, `(8, 0)`; with these values every fact claimed is linear.
  by_cases h0 : i = 0
  · by_cases hl : i + 1 = s.dlen
    · -- first and last
      simp only [if_pos h0, if_pos (Nat.eq_sub_of_add_eq hl), subU_ok cfg (show s.lhSt ≤ 8 by omega),
        subU_ok cfg (show s.rhEn ≤ 8 - s.lhSt by omega), Res.bind_ok, pure_eq_ok]
      refine ⟨_, _, _, rfl, fun t => ?_, by omega⟩
      simp only [Nat.testBit_and, testBit_255, testBit_shr255, testBit_shl255, ← Bool.decide_and,
        decide_eq_decide]
      omega
    · -- first, not last
      simp only [if_pos h0, if_neg (show ¬ i = s.dlen - 1 by omega),
        subU_ok cfg (show s.lhSt ≤ 8 by omega), Res.bind_ok, pure_eq_ok]
      refine ⟨_, _, _, rfl, fun t => ?_, by omega⟩
      simp only [Nat.testBit_and, testBit_255, testBit_shr255, ← Bool.decide_and, decide_eq_decide]
      omega
  · by_cases hl : i + 1 = s.dlen
    · -- last, not first
      simp only [if_neg h0, if_pos (Nat.eq_sub_of_add_eq hl), subU_ok cfg (show s.rhEn ≤ 8 by omega),
        Res.bind_ok, pure_eq_ok]
      refine ⟨_, _, _, rfl, fun t => ?_, by omega⟩
      simp only [Nat.testBit_and, testBit_255, testBit_shl255, ← Bool.decide_and, decide_eq_decide]
      omega
    · -- in the middle
      simp only [if_neg h0, if_neg (show ¬ i = s.dlen - 1 by omega), Res.bind_ok, pure_eq_ok]
      refine ⟨_, _, _, rfl, fun t => ?_, by omega⟩
      simp only [testBit_255, decide_eq_decide]
      omega

/-- the step for any mask, bit count and `bpos`, given `nbits ≤ lenlft`, that one of `bpos`, the new
`lenlft` is 0 and that both are below the carrier width: no subtraction underflows, and the shift
is by the one that is not 0 -/
theorem putStep_shift (cfg : Cfg) (it : IT) {s : Setup} {value i L d bset nbits bpos : Nat}
    {L' : Nat} (hgeo : byteGeom cfg s i = .ok (bset, nbits, bpos)) (hn : L' + nbits = L)
    (h0 : bpos = 0 ∨ L' = 0) (hb : bpos < it.w) (hL : L' < it.w) :
    ∃ tval, putStep cfg it s value i L d
        = .ok (d &&& ((255 ^^^ bset) ||| valCast tval) ||| (bset &&& valCast tval), L') ∧
      (value < 2 ^ it.w → ∀ t k, t < it.w → k < it.w → k + bpos = t + L' →
        tval.testBit t = value.testBit k) := by
  unfold putStep
  rw [hgeo]
  subst hn
  simp only [Res.bind_ok, subU_ok cfg (Nat.le_add_left nbits L'), Nat.add_sub_cancel]
  by_cases hge : bpos ≥ L'
  · have hz : L' = 0 := by omega
    subst hz
    simp only [if_pos hge, subU_ok cfg hge, Res.bind_ok, shl_ok cfg value (show bpos - 0 < it.w from hb)]
    refine ⟨_, rfl, fun _ t k ht _ hk => ?_⟩
    rw [testBit_shl, decide_eq_true ht, decide_eq_true (show bpos - 0 ≤ t by omega),
      show t - (bpos - 0) = k by omega]
    rfl
  · have hz : bpos = 0 := by omega
    subst hz
    simp only [if_neg hge, subU_ok cfg (Nat.zero_le L'), Res.bind_ok,
      shr_ok cfg it.signed value (show L' - 0 < it.w from hL)]
    refine ⟨_, rfl, fun hv t k _ hk h => ?_⟩
    rw [show k = t + (L' - 0) by omega] at hk ⊢
    exact testBit_shrRaw it.signed hv hk

/-- Byte `i` of `put`: it succeeds for every value; the bits are as stated for a carrier pattern
(`>>` is arithmetic for signed kinds, so a value `≥ 2 ^ w` would shift in the wrong bits). -/
theorem putStep_spec (cfg : Cfg) (it : IT) {s : Setup} {len i L value : Nat} (d : Nat)
    (hg : Geom s len) (hlw : len ≤ it.w) (hw8 : 8 ≤ it.w) (hi : i < s.dlen)
    (hL : L + max s.lhSt (8 * i) = s.lhSt + len) :
    ∃ d', putStep cfg it s value i L d = .ok (d', s.lhSt + len - 8 * (i + 1)) ∧
      ∀ t, t < 8 → value < 2 ^ it.w →
        d'.testBit t =
          if s.lhSt + t < 8 * (i + 1) ∧ 8 * (i + 1) ≤ s.lhSt + len + t
          then value.testBit (s.lhSt + len + t - 8 * (i + 1)) else d.testBit t := by
  obtain ⟨bset, nbits, bpos, hbg, hmask, hn1, hLl, hb8, hn, hE, h0⟩ := stepGeom cfg hg hi hL
  obtain ⟨tval, hst, htv⟩ := putStep_shift cfg it (value := value) (d := d) hbg hn h0
    (by omega) (by omega)
  generalize s.lhSt + len - 8 * (i + 1) = L' at *
  refine ⟨_, hst, fun t ht h => ?_⟩
  rw [testBit_merge _ _ _ ht, hmask]
  by_cases hw : s.lhSt + t < 8 * (i + 1) ∧ 8 * (i + 1) ≤ s.lhSt + len + t
  · obtain ⟨k, hk⟩ : ∃ k, t + (s.lhSt + len) = k + 8 * (i + 1) :=
      ⟨s.lhSt + len + t - 8 * (i + 1), by omega⟩
    have hkL : k < L := (mask_iff hL hk).1 ⟨ht, hw⟩
    rw [if_pos hw, decide_eq_true ⟨ht, hw⟩, if_pos rfl, valCast, testBit_mod256,
      decide_eq_true ht, Bool.true_and, show s.lhSt + len + t - 8 * (i + 1) = k by omega,
      htv h t k (by omega) (by omega) (by omega)]
  · rw [if_neg hw, decide_eq_false (fun h => hw h.2), if_neg Bool.false_ne_true]

theorem putLoop_spec (cfg : Cfg) (it : IT) {s : Setup} {len value : Nat} (hg : Geom s len)
    (hlw : len ≤ it.w) (hw8 : 8 ≤ it.w) (ds : List Nat) (i L : Nat)
    (hL : i < s.dlen → L + max s.lhSt (8 * i) = s.lhSt + len) (hi : i ≤ s.dlen)
    (hl : s.dlen - i ≤ ds.length) :
    ∃ out, putLoop cfg it s value i L ds = .ok out ∧
      ∀ p, value < 2 ^ it.w →
        bitAt out p =
          if s.lhSt ≤ 8 * i + p ∧ 8 * i + p < s.lhSt + len
          then value.testBit (s.lhSt + len - 1 - (8 * i + p)) else bitAt ds p := by
  have ⟨hlh, hrh, _, hsp⟩ := hg
  fun_induction putLoop cfg it s value i L ds with
  | case1 i L =>
    refine ⟨[], rfl, fun p _ => ?_⟩
    rw [if_neg]
    simp only [List.length_nil] at hl
    omega
  | case2 i L d ds hlt ih =>
    obtain ⟨d', hd', hbits⟩ := putStep_spec cfg it (value := value) d hg hlw hw8 hlt (hL hlt)
    obtain ⟨rest, hr, hrb⟩ := ih (d', s.lhSt + len - 8 * (i + 1)) (fun h => by simp only; omega)
      (by omega) (by simp only [List.length_cons] at hl; omega)
    rw [hd', Res.bind_ok, hr]
    refine ⟨_, rfl, fun p h => ?_⟩
    simp only [bitAt_cons]
    by_cases hp : p < 8
    · have e : s.lhSt + (7 - p) < 8 * (i + 1) ∧ 8 * (i + 1) ≤ s.lhSt + len + (7 - p)
          ↔ s.lhSt ≤ 8 * i + p ∧ 8 * i + p < s.lhSt + len := by omega
      rw [if_pos hp, if_pos hp, hbits (7 - p) (by omega) h]
      simp only [e]
      congr 2
      omega
    · have e : 8 * i + p = 8 * (i + 1) + (p - 8) := by omega
      rw [if_neg hp, if_neg hp, e]
      exact hrb (p - 8) h
  | case3 i L d ds hlt =>
    refine ⟨_, rfl, fun p _ => ?_⟩
    rw [if_neg]
    omega

/-- as `putStep_shift`; the mask is assumed to lie below `bpos + nbits`, so that nothing is shifted out
of the carrier -/
theorem parseStep_shift (cfg : Cfg) (it : IT) {s : Setup} {i L d val bset nbits bpos : Nat}
    {L' : Nat} (hgeo : byteGeom cfg s i = .ok (bset, nbits, bpos)) (hn : L' + nbits = L)
    (h0 : bpos = 0 ∨ L' = 0) (hb : bpos < 8) (hL : L' < it.w) (hLw : L ≤ it.w)
    (hmask : ∀ t, bset.testBit t = true → t < bpos + nbits) :
    ∃ x, parseStep cfg it s i L d val = .ok (val ||| x, L') ∧
      ∀ m, x.testBit m = (decide (L' ≤ m) && (d &&& bset).testBit (m - L' + bpos)) := by
  unfold parseStep
  rw [hgeo]
  subst hn
  simp only [Res.bind_ok, subU_ok cfg (Nat.le_add_left nbits L'), Nat.add_sub_cancel, u8Cast]
  by_cases hge : bpos ≥ L'
  · have hz : L' = 0 := by omega
    subst hz
    simp only [if_pos hge, subU_ok cfg hge, Res.bind_ok, shr_ok cfg false _ (show bpos - 0 < 8 from hb)]
    refine ⟨_, rfl, fun m => ?_⟩
    simp only [shrRaw, Bool.false_eq_true, if_false, Nat.testBit_shiftRight, Nat.sub_zero,
      Nat.zero_le, decide_true, Bool.true_and, Nat.add_comm]
  · have hz : bpos = 0 := by omega
    subst hz
    simp only [if_neg hge, subU_ok cfg (Nat.zero_le L'), Res.bind_ok,
      shl_ok cfg _ (show L' - 0 < it.w from hL)]
    refine ⟨_, rfl, fun m => ?_⟩
    rw [testBit_shl, Nat.sub_zero, Nat.add_zero]
    by_cases hb : (d &&& bset).testBit (m - L') = true
    · have := hmask (m - L') (by rw [Nat.testBit_and] at hb; simp only [Bool.and_eq_true] at hb; exact hb.2)
      by_cases hm : L' ≤ m
      · rw [decide_eq_true (show m < it.w by omega)]; rfl
      · simp only [hm, decide_false, Bool.false_and, Bool.and_false]
    · simp only [hb, Bool.and_false]

theorem parseStep_spec (cfg : Cfg) (it : IT) {s : Setup} {len i L : Nat} (d val : Nat)
    (hg : Geom s len) (hlw : len ≤ it.w) (hi : i < s.dlen)
    (hL : L + max s.lhSt (8 * i) = s.lhSt + len) :
    ∃ val', parseStep cfg it s i L d val = .ok (val', s.lhSt + len - 8 * (i + 1)) ∧
      ∀ m, val'.testBit m = (val.testBit m ||
        (decide (s.lhSt + len - 8 * (i + 1) ≤ m ∧ m < L) &&
          d.testBit (m + 8 * (i + 1) - (s.lhSt + len)))) := by
  obtain ⟨bset, nbits, bpos, hbg, hmask, hn1, hLl, hb8, hn, hE, h0⟩ := stepGeom cfg hg hi hL
  have hbound : ∀ t, bset.testBit t = true → t < bpos + nbits := by
    intro t ht
    rw [hmask, decide_eq_true_eq] at ht
    obtain ⟨k, hk⟩ : ∃ k, t + (s.lhSt + len) = k + 8 * (i + 1) :=
      ⟨s.lhSt + len + t - 8 * (i + 1), by omega⟩
    have := (mask_iff hL hk).1 ht
    omega
  obtain ⟨x, hst, hx⟩ := parseStep_shift cfg it (d := d) (val := val) hbg hn h0 hb8
    (by omega) (by omega) hbound
  generalize s.lhSt + len - 8 * (i + 1) = L' at *
  refine ⟨_, hst, fun m => ?_⟩
  rw [Nat.testBit_or, hx, Nat.testBit_and, hmask]
  congr 1
  by_cases hm1 : L' ≤ m
  · obtain ⟨t, ht⟩ : ∃ t, t + (s.lhSt + len) = m + 8 * (i + 1) := ⟨m - L' + bpos, by omega⟩
    rw [show m - L' + bpos = t by omega, show m + 8 * (i + 1) - (s.lhSt + len) = t by omega]
    simp only [mask_iff hL ht, hm1, true_and, decide_true, Bool.true_and, Bool.and_comm]
  · rw [decide_eq_false hm1, decide_eq_false (show ¬ (L' ≤ m ∧ m < L) from fun h => hm1 h.1),
      Bool.false_and, Bool.false_and]

theorem parseLoop_spec (cfg : Cfg) (it : IT) {s : Setup} {len : Nat} (hg : Geom s len)
    (hlw : len ≤ it.w) (ds : List Nat) (i L val : Nat)
    (hL : i < s.dlen → L + max s.lhSt (8 * i) = s.lhSt + len) (hi : i ≤ s.dlen)
    (hl : s.dlen - i ≤ ds.length) :
    ∃ val', parseLoop cfg it s i L val ds = .ok val' ∧
      ∀ m, val'.testBit m = (val.testBit m ||
        (decide (i < s.dlen ∧ m < L) && bitAt ds (s.lhSt + len - 1 - m - 8 * i))) := by
  have ⟨hlh, hrh, _, hsp⟩ := hg
  fun_induction parseLoop cfg it s i L val ds with
  | case1 i L val =>
    refine ⟨val, rfl, fun m => ?_⟩
    simp only [List.length_nil] at hl
    rw [decide_eq_false (by omega), Bool.false_and, Bool.or_false]
  | case2 i L val d ds hlt ih =>
    obtain ⟨val1, hv1, hbits⟩ := parseStep_spec cfg it d val hg hlw hlt (hL hlt)
    obtain ⟨L', hL'⟩ : ∃ L', L' = s.lhSt + len - 8 * (i + 1) := ⟨_, rfl⟩
    rw [← hL'] at hbits hv1
    obtain ⟨val', hr, hrb⟩ := ih (val1, L') (fun h => by simp only; omega) (by omega)
      (by simp only [List.length_cons] at hl; omega)
    rw [hv1, Res.bind_ok]
    refine ⟨_, hr, fun m => ?_⟩
    have hL0 := hL hlt
    rw [hrb, hbits, bitAt_cons, Bool.or_assoc]
    congr 1
    -- bit `m` comes from a later byte, from this byte, or lies above what is left of the field
    by_cases hm : m < L
    · by_cases hm' : m < L'
      · rw [decide_eq_false (show ¬ (L' ≤ m ∧ m < L) by omega), if_neg (by omega),
          decide_eq_true (show i + 1 < s.dlen ∧ m < L' by omega), decide_eq_true ⟨hlt, hm⟩,
          Bool.false_and, Bool.false_or]
        congr 2
      · rw [decide_eq_true (show L' ≤ m ∧ m < L by omega), if_pos (by omega),
          decide_eq_false (show ¬ (i + 1 < s.dlen ∧ m < L') by omega), decide_eq_true ⟨hlt, hm⟩,
          Bool.false_and, Bool.or_false]
        congr 2
        omega
    · rw [decide_eq_false (show ¬ (L' ≤ m ∧ m < L) by omega),
        decide_eq_false (show ¬ (i + 1 < s.dlen ∧ m < L') by omega),
        decide_eq_false (show ¬ (i < s.dlen ∧ m < L) by omega)]
      rfl
  | case3 i L val d ds hlt =>
    refine ⟨val, rfl, fun m => ?_⟩
    rw [decide_eq_false (by omega), Bool.false_and, Bool.or_false]

theorem fieldValue_succ (data : List Nat) (off len : Nat) :
    fieldValue data off (len + 1)
      = 2 * fieldValue data off len + (if bitAt data (off + len) then 1 else 0) := by
  simp [fieldValue, List.range_succ, List.foldl_append]

theorem testBit_two_mul_add_bit (a : Nat) (b : Bool) (m : Nat) :
    (2 * a + (if b then 1 else 0)).testBit m = if m = 0 then b else a.testBit (m - 1) := by
  cases m with
  | zero =>
    rw [Nat.testBit_zero, if_pos rfl]
    cases b
    · exact decide_eq_false (by simp only [Bool.false_eq_true, if_false]; omega)
    · exact decide_eq_true (by simp only [if_true]; omega)
  | succ m =>
    have : (2 * a + (if b then 1 else 0)) / 2 = a := by
      cases b
      · simp only [Bool.false_eq_true, if_false]; omega
      · simp only [if_true]; omega
    rw [Nat.testBit_succ, this, if_neg (Nat.succ_ne_zero m), Nat.add_sub_cancel]

theorem testBit_fieldValue (data : List Nat) (off len m : Nat) :
    (fieldValue data off len).testBit m = (decide (m < len) && bitAt data (off + len - 1 - m)) := by
  induction len generalizing m with
  | zero => simp [fieldValue]
  | succ len ih =>
    rw [fieldValue_succ, testBit_two_mul_add_bit]
    split
    · next h => subst h; simp
    · next h =>
      rw [ih]
      have e : off + len - 1 - (m - 1) = off + (len + 1) - 1 - m := by omega
      rw [e]
      congr 1
      simp; omega

theorem fieldValue_lt (data : List Nat) (off len : Nat) : fieldValue data off len < 2 ^ len := by
  apply Nat.lt_pow_two_of_testBit
  intro i hi
  rw [testBit_fieldValue]
  simp; omega

theorem fieldValue_ext {D E : List Nat} {off len : Nat}
    (h : ∀ g, off ≤ g → g < off + len → bitAt D g = bitAt E g) :
    fieldValue D off len = fieldValue E off len := by
  apply Nat.eq_of_testBit_eq
  intro m
  rw [testBit_fieldValue, testBit_fieldValue]
  by_cases hm : m < len
  · rw [h _ (by omega) (by omega)]
  · rw [decide_eq_false hm, Bool.false_and, Bool.false_and]

/-- the first twelve bits of a byte buffer as a number (the message number of a frame body) -/
theorem fieldValue_zero_twelve (data : List Nat) (h0 : data.getD 0 0 < 256)
    (h1 : data.getD 1 0 < 256) :
    fieldValue data 0 12 = (data.getD 0 0 <<< 4) ||| (data.getD 1 0 >>> 4) := by
  apply Nat.eq_of_testBit_eq
  intro i
  rw [testBit_fieldValue, Nat.testBit_or, Nat.testBit_shiftLeft, Nat.testBit_shiftRight, bitAt]
  -- bit `i` is bit `4 + i` of byte 1 for `i < 4`, bit `i - 4` of byte 0 for `4 ≤ i < 12`, and no bit
  -- above that
  by_cases h4 : i < 4
  · rw [decide_eq_true (show i < 12 by omega), decide_eq_false (show ¬ i ≥ 4 by omega),
      show (0 + 12 - 1 - i) / 8 = 1 by omega, show 7 - (0 + 12 - 1 - i) % 8 = 4 + i by omega]
    rfl
  · rw [decide_eq_true (show i ≥ 4 by omega), testBit_false_of_lt_256 h1 (show 8 ≤ 4 + i by omega),
      Bool.or_false, Bool.true_and]
    by_cases h12 : i < 12
    · rw [decide_eq_true h12, show (0 + 12 - 1 - i) / 8 = 0 by omega,
        show 7 - (0 + 12 - 1 - i) % 8 = i - 4 by omega]
      rfl
    · rw [decide_eq_false h12, testBit_false_of_lt_256 h0 (show 8 ≤ i - 4 by omega)]
      rfl

theorem parseLoop_fieldValue (cfg : Cfg) (it : IT) {data : List Nat} {off len : Nat}
    (h1 : 1 ≤ len) (hlw : len ≤ it.w) (hfit : off + len ≤ 8 * data.length) :
    parseLoop cfg it (setupOf off len) 0 len 0 (data.drop (off / 8))
      = .ok (fieldValue data off len) := by
  have hgeo := setupOf_geom (off := off) h1
  obtain ⟨val', hv, hb⟩ := parseLoop_spec cfg it hgeo hlw (data.drop (off / 8)) 0 len 0
    (fun _ => by omega) (Nat.zero_le _)
    (setupOf_fits h1 hfit)
  rw [hv]
  congr 1
  apply Nat.eq_of_testBit_eq
  intro m
  have hd : 0 < (setupOf off len).dlen := by have := hgeo.span; omega
  have ha : (setupOf off len).lhSt = off % 8 := rfl
  rw [hb, testBit_fieldValue, Nat.zero_testBit, Bool.false_or, bitAt_drop, ha]
  by_cases hm : m < len
  · rw [decide_eq_true hm, decide_eq_true ⟨hd, hm⟩]
    congr 2
    omega
  · rw [decide_eq_false hm, decide_eq_false (fun h => hm h.2)]
    rfl

end Rtcm.Bits
