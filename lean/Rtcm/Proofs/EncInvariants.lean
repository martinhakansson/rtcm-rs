import Rtcm.Proofs.Bits
import Rtcm.Proofs.EncEqns
import Rtcm.Proofs.BiasLayout
/-!
A relation between cursors that is reflexive, transitive and holds across every successful `put`
(`PutInv`) holds across every encoder of the interpreter, with no hypothesis on the layout, the
tokens or the buffer: one traversal (`encFrag_rel`), instantiated with what `put` preserves
unconditionally, namely the buffer length, the bits before the cursor, and bytes staying bytes.
-/
namespace Rtcm

structure PutInv (R : Cur → Cur → Prop) : Prop where
  refl : ∀ c, R c c
  trans : ∀ {a b c}, R a b → R b c → R a c
  put : ∀ (cfg : Cfg) (it : Bits.IT) (c : Cur) (v len : Nat) (d : List Nat) (o : Nat),
    Bits.put cfg it c.data c.off v len = .ok (d, o) → R c { data := d, off := o }

namespace Interp
open Rtcm.Schema Rtcm.Text

section Leaf
variable {Q : Cur → Prop} {E : RtcmError → Prop} {P : String → Prop}
  (hp : ∀ w : String, NoPanic.TokPanic w → P w) (cfg : Cfg) (glo : SigTable) (ts : List Tok) (c : Cur)
include hp

theorem encFrag_str_sat (cap lenBits : Nat) (h : ∀ b, (strEncode cfg lenBits b c).Sat Q E P) :
    (encFrag cfg glo (.str cap lenBits) ts c).Sat (fun (c', _) => Q c') E P := by
  rcases encFrag_str_cases cfg glo cap lenBits ts c with ⟨w, hw, e⟩ | ⟨b, rest, -, -, e⟩
  · rw [e]
    exact hp w hw
  · rw [e]
    exact (h _).bind fun _ hq => hq

theorem encFrag_text1029_sat (h : ∀ b, (text1029Encode cfg b c).Sat Q E P) :
    (encFrag cfg glo .text1029 ts c).Sat (fun (c', _) => Q c') E P := by
  rcases encFrag_text1029_cases cfg glo ts c with ⟨w, hw, e⟩ | ⟨b, rest, -, -, e⟩
  · rw [e]
    exact hp w hw
  · rw [e]
    exact (h _).bind fun _ hq => hq

theorem encFrag_msm_sat (tbl : SigTable) (satFields sigFields : List (String × DfSpec))
    (h : ∀ sats sigs, (Msm.encode cfg tbl satFields sigFields sats sigs c).Sat Q E P) :
    (encFrag cfg glo (.msm tbl satFields sigFields) ts c).Sat (fun (c', _) => Q c') E P := by
  rcases encFrag_msm_cases cfg glo tbl satFields sigFields ts c with
    ⟨w, hw, e⟩ | ⟨_, _, sats, _, _, sigs, rest, -, -, -, -, -, e⟩
  · rw [e]
    exact hp w hw
  · rw [e]
    exact (h _ _).bind fun _ hq => hq

end Leaf
end Interp

section Rel
variable {R : Cur → Cur → Prop} (hR : PutInv R)
include hR

theorem PutInv.step {a b : Cur} {r : Res Cur} (h : R a b) (hr : r.Sat (R b)) : r.Sat (R a) :=
  hr.imp fun _ h' => hR.trans h h'

theorem PutInv.put_sat (cfg : Cfg) (it : Bits.IT) (c : Cur) (v len : Nat) :
    (Bits.put cfg it c.data c.off v len).Sat fun (d, o) => R c { data := d, off := o } :=
  Res.sat_iff.mpr fun (d, o) h => hR.put cfg it c v len d o h

namespace Text

theorem putU_rel (cfg : Cfg) (w v len : Nat) (c : Cur) : (putU cfg w v len c).Sat (R c) := by
  rw [putU_eq_bind]
  exact (hR.put_sat cfg _ c v len).bind fun _ h => h

theorem putBytes_rel (cfg : Cfg) (bs : List Nat) (c : Cur) : (putBytes cfg bs c).Sat (R c) := by
  induction bs generalizing c with
  | nil => exact hR.refl c
  | cons b bs ih =>
    rw [putBytes_cons]
    exact (putU_rel hR cfg 8 b 8 c).bind fun c1 h => hR.step h (ih c1)

theorem strEncode_rel (cfg : Cfg) (lenBits : Nat) (bytes : List Nat) (c : Cur) :
    (strEncode cfg lenBits bytes c).Sat (R c) := by
  rw [strEncode_eq]
  exact (putU_rel hR cfg 8 _ lenBits c).bind fun c1 h => hR.step h (putBytes_rel hR cfg bytes c1)

theorem text1029Encode_rel (cfg : Cfg) (bytes : List Nat) (c : Cur) :
    (text1029Encode cfg bytes c).Sat (R c) := by
  rw [text1029Encode_eq]
  exact .ite (fun _ => trivial) fun _ => (putU_rel hR cfg 8 _ 7 c).bind fun c1 h1 =>
    hR.step h1 ((putU_rel hR cfg 8 _ 8 c1).bind fun c2 h2 => hR.step h2 (putBytes_rel hR cfg bytes c2))

end Text

namespace Df

theorem encode_rel (cfg : Cfg) (s : Schema.DfSpec) (toks : List Tok) (c : Cur) :
    (Df.encode cfg s toks c).Sat fun (c', _) => R c c' := by
  rw [Df.encode_eq]
  exact Res.Sat.trivial.bind fun (p, _) _ => (hR.put_sat cfg s.it c p s.len).bind fun _ h => h

end Df

namespace Msm
open Rtcm.Text

theorem encColumn_rel (cfg : Cfg) (s : Schema.DfSpec) (j : Nat) (rows : List (List (List Tok))) (c : Cur) :
    (encColumn cfg s j rows c).Sat (R c) := by
  induction rows generalizing c with
  | nil => exact hR.refl c
  | cons r rows ih =>
    rw [encColumn_cons]
    exact (Df.encode_rel hR cfg s _ c).bind fun (c1, _) h => hR.step h (ih c1)

theorem encColumns_rel (cfg : Cfg) (rows : List (List (List Tok))) (fs : List (String × Schema.DfSpec)) (j : Nat)
    (c : Cur) : (encColumns cfg rows j fs c).Sat (R c) := by
  induction fs generalizing j c with
  | nil => exact hR.refl c
  | cons f fs ih =>
    obtain ⟨nm, s⟩ := f
    rw [encColumns_cons]
    exact (encColumn_rel hR cfg s j rows c).bind fun c1 h => hR.step h (ih (j + 1) c1)

theorem encode_rel (cfg : Cfg) (tbl : Schema.SigTable) (satFields sigFields : List (String × Schema.DfSpec))
    (sats : List SatRow) (sigs : List SigRow) (c : Cur) :
    (Msm.encode cfg tbl satFields sigFields sats sigs c).Sat (R c) := by
  rw [encode_eq]
  refine Res.Sat.trivial.bind fun m _ => ?_
  rcases m with _ | ⟨satMask, sigMask, cellMask, cellLen⟩
  · exact (putU_rel hR cfg 64 0 64 c).bind fun c1 h => hR.step h (putU_rel hR cfg 32 0 32 c1)
  · exact (putU_rel hR cfg 64 _ 64 c).bind fun c1 h1 => hR.step h1 <|
      (putU_rel hR cfg 32 _ 32 c1).bind fun c2 h2 => hR.step h2 <|
      (putU_rel hR cfg 64 _ _ c2).bind fun c3 h3 => hR.step h3 <|
      (encColumns_rel hR cfg _ satFields 0 c3).bind fun c4 h4 =>
        hR.step h4 (encColumns_rel hR cfg _ sigFields 0 c4)

end Msm

namespace Layout

theorem putF_rel (cfg : Cfg) (it : Bits.IT) (v len : Nat) (c : Cur) :
    (CurLaws.putF cfg it v len c).Sat (R c) :=
  putF_eq_bind cfg it v len c ▸ (hR.put_sat cfg it c v len).bind fun _ h => h

theorem putAll_rel (cfg : Cfg) (is : List Item) (c : Cur) : (putAll cfg is c).Sat (R c) :=
  (putAll_sat (G := fun _ => True) (fun c _ => hR.refl c) hR.trans is
    (fun it len v _ c _ => (putF_rel hR cfg it v len c).imp fun _ h => ⟨h, trivial⟩)
    (fun _ _ => trivial) c trivial).imp fun _ h => h.1

end Layout

namespace Bias

theorem encode_rel (cfg : Cfg) (p : Params) (v : List Entry) (c : Cur) : (Bias.encode cfg p v c).Sat (R c) :=
  encode_putAll cfg p v ▸ Layout.putAll_rel hR cfg _ c

theorem encode1230_rel (cfg : Cfg) (gloTbl : Schema.SigTable) (v : List Entry) (c : Cur) :
    (Bias.encode1230 cfg gloTbl v c).Sat (R c) :=
  encode1230_putAll cfg gloTbl v ▸ Layout.putAll_rel hR cfg _ c

end Bias

namespace Interp
open Rtcm.Schema Rtcm.Text

theorem encRepeat_rel {f : Enc} (hf : ∀ ts c, (f ts c).Sat fun (c', _) => R c c') (n : Nat) (ts : List Tok)
    (c : Cur) : (encRepeat f n ts c).Sat fun (c', _) => R c c' := by
  induction n generalizing ts c with
  | zero => exact hR.refl c
  | succ n ih =>
    rw [encRepeat_succ]
    exact (hf ts c).bind fun (c1, ts1) h => (ih ts1 c1).imp fun _ h' => hR.trans h h'

mutual
theorem encFrag_rel (cfg : Cfg) (glo : SigTable) :
    ∀ (f : Frag) (ts : List Tok) (c : Cur), (encFrag cfg glo f ts c).Sat fun (c', _) => R c c'
  | .df s, ts, c => Df.encode_rel hR cfg s ts c
  | .str cap lenBits, ts, c =>
    encFrag_str_sat (fun _ _ => trivial) cfg glo ts c cap lenBits fun _ => strEncode_rel hR cfg _ _ c
  | .text1029, ts, c =>
    encFrag_text1029_sat (fun _ _ => trivial) cfg glo ts c fun _ => text1029Encode_rel hR cfg _ c
  | .bias1059 cap tbl, ts, c =>
    encFrag_bias1059 cfg glo cap tbl ts c ▸
      listE_sat (fun _ _ => trivial) _ _ ts fun _ => Bias.encode_rel hR cfg _ _ c
  | .bias1065 cap tbl, ts, c =>
    encFrag_bias1065 cfg glo cap tbl ts c ▸
      listE_sat (fun _ _ => trivial) _ _ ts fun _ => Bias.encode_rel hR cfg _ _ c
  | .bias1230, ts, c =>
    encFrag_bias1230 cfg glo ts c ▸
      listE_sat (fun _ _ => trivial) _ _ ts fun _ => Bias.encode1230_rel hR cfg glo _ c
  | .msm tbl sf gf, ts, c =>
    encFrag_msm_sat (fun _ _ => trivial) cfg glo ts c tbl sf gf fun _ _ =>
      Msm.encode_rel hR cfg tbl sf gf _ _ c
  | .seq fs, ts, c => encFields_rel cfg glo fs ts c
  | .grid16 elem, ts, c => encRepeat_rel hR (encFrag_rel cfg glo elem) 16 ts c
  | .vecWithLen elem cap lenBits, ts, c => by
    rw [encFrag_vecWithLen]
    split
    · exact .ite (fun _ => trivial) fun _ => (hR.put_sat cfg _ c _ lenBits).bind fun (d, o) h =>
        (encRepeat_rel hR (encFrag_rel cfg glo elem) _ _ _).imp fun _ h' => hR.trans h h'
    · trivial
  | .lenMiddle f1 lenDf f2 elem cap, ts, c => by
    rw [encFrag_lenMiddle]
    refine (encFields_rel cfg glo f1 ts c).bind fun (c1, ts1) h1 => ?_
    dsimp only
    split
    · exact .ite (fun _ => trivial) fun _ => (Df.encode_rel hR cfg lenDf _ c1).bind fun (c2, _) h2 =>
        (encFields_rel cfg glo f2 _ c2).bind fun (c3, ts3) h3 =>
          (encRepeat_rel hR (encFrag_rel cfg glo elem) _ ts3 c3).imp fun _ h4 =>
            hR.trans h1 (hR.trans h2 (hR.trans h3 h4))
    · trivial
theorem encFields_rel (cfg : Cfg) (glo : SigTable) :
    ∀ (fs : Fields) (ts : List Tok) (c : Cur), (encFields cfg glo fs ts c).Sat fun (c', _) => R c c'
  | .nil, ts, c => hR.refl c
  | .cons _ f rest, ts, c => by
    rw [encFields_cons]
    exact (encFrag_rel cfg glo f ts c).bind fun (c1, ts1) h =>
      (encFields_rel cfg glo rest ts1 c1).imp fun _ h' => hR.trans h h'
end

end Interp
end Rel

/-- the builder's window keeps its 1023 bytes whatever is encoded into it (C12) -/
abbrev SameLen (c c' : Cur) : Prop := c'.data.length = c.data.length

theorem sameLen_putInv : PutInv SameLen where
  refl := fun _ => rfl
  trans := fun h1 h2 => h2.trans h1
  put := fun _ _ _ _ _ _ _ h => Bits.put_length h

namespace Interp
open Rtcm.Schema

theorem encFrag_length (cfg : Cfg) (glo : SigTable) (f : Frag) (ts : List Tok) (c c' : Cur) (ts' : List Tok)
    (h : encFrag cfg glo f ts c = .ok (c', ts')) : c'.data.length = c.data.length :=
  (encFrag_rel sameLen_putInv cfg glo f ts c).of_ok h

theorem encFields_length (cfg : Cfg) (glo : SigTable) : ∀ (fs : Fields) (ts : List Tok) (c c' : Cur) (ts' : List Tok),
    encFields cfg glo fs ts c = .ok (c', ts') → c'.data.length = c.data.length :=
  fun fs ts c _ _ h => (encFields_rel sameLen_putInv cfg glo fs ts c).of_ok h

end Interp

/-- an encoder never writes before its cursor: what `C15.count_on_wire` rests on -/
def Below (c c' : Cur) : Prop :=
  c'.data.length = c.data.length ∧ c.off ≤ c'.off ∧
    ∀ g, g < c.off → Bits.bitAt c'.data g = Bits.bitAt c.data g

theorem below_putInv : PutInv Below where
  refl := fun c => ⟨rfl, Nat.le_refl _, fun _ _ => rfl⟩
  trans := fun ⟨l1, o1, b1⟩ ⟨l2, o2, b2⟩ =>
    ⟨l2.trans l1, Nat.le_trans o1 o2, fun g hg => (b2 g (by omega)).trans (b1 g hg)⟩
  put := fun cfg it c v len d o h => by
    obtain ⟨ho, hb⟩ := Bits.put_below h
    exact ⟨Bits.put_length h, by simp only [ho]; omega, hb⟩

def BytesStay (c c' : Cur) : Prop := (∀ d ∈ c.data, d < 256) → ∀ d ∈ c'.data, d < 256

theorem bytes_putInv : PutInv BytesStay where
  refl := fun _ h => h
  trans := fun h1 h2 h => h2 (h1 h)
  put := fun _ _ _ _ _ _ _ h hd => Bits.put_bytes h hd

namespace Interp
open Rtcm.Schema

theorem encFrag_bytes {cfg : Cfg} {glo : SigTable} {f : Frag} {ts ts' : List Tok} {c c' : Cur}
    (h : encFrag cfg glo f ts c = .ok (c', ts')) (hd : ∀ d ∈ c.data, d < 256) : ∀ d ∈ c'.data, d < 256 :=
  (encFrag_rel bytes_putInv cfg glo f ts c).of_ok h hd

theorem encFields_below {cfg : Cfg} {glo : SigTable} {fs : Fields} {ts ts' : List Tok} {c c' : Cur}
    (h : encFields cfg glo fs ts c = .ok (c', ts')) : Below c c' :=
  (encFields_rel below_putInv cfg glo fs ts c).of_ok h

theorem encRepeat_below {cfg : Cfg} {glo : SigTable} {f : Frag} {n : Nat} {ts ts' : List Tok} {c c' : Cur}
    (h : encRepeat (encFrag cfg glo f) n ts c = .ok (c', ts')) : Below c c' :=
  (encRepeat_rel below_putInv (encFrag_rel below_putInv cfg glo f) n ts c).of_ok h

end Interp

end Rtcm
