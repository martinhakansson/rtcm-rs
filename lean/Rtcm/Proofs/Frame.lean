import Rtcm.Model.Frame
/-!
`frameNew` by its tests in order (`FrameCase`, `frameNew_cases`); the characterisations of its three
outcomes and its stability under appended bytes (`frameNew_append`) are read off that.
-/
namespace Rtcm

theorem byteAt_lt (d : List UInt8) (i : Nat) : byteAt d i < 2 ^ 8 := UInt8.toNat_lt _

theorem byteAt_append_left (d e : List UInt8) (i : Nat) (h : i < d.length) :
    byteAt (d ++ e) i = byteAt d i := by
  rw [byteAt, byteAt, List.getD_eq_getElem?_getD, List.getD_eq_getElem?_getD,
    List.getElem?_append_left h]

theorem byteAt_append_right (d e : List UInt8) (i : Nat) :
    byteAt (d ++ e) (d.length + i) = byteAt e i := by
  rw [byteAt, byteAt, List.getD_eq_getElem?_getD, List.getD_eq_getElem?_getD,
    List.getElem?_append_right (Nat.le_add_right _ _), Nat.add_sub_cancel_left]

theorem byteAt_append_right' (d e : List UInt8) (i : Nat) (h : d.length ≤ i) :
    byteAt (d ++ e) i = byteAt e (i - d.length) := by
  have := byteAt_append_right d e (i - d.length)
  rwa [Nat.add_sub_cancel' h] at this

theorem lenField_lt (d : List UInt8) : lenField d < 1024 := by
  unfold lenField
  have h1 := byteAt_lt d 1
  have h2 := byteAt_lt d 2
  have h3 : byteAt d 1 &&& 3 ≤ 3 := Nat.and_le_right
  have : (byteAt d 1 &&& 3) <<< 8 < 2 ^ 10 := by rw [Nat.shiftLeft_eq]; omega
  exact Nat.or_lt_two_pow this (Nat.lt_of_lt_of_le h2 (by decide))

theorem lenField_append (d e : List UInt8) (h : 3 ≤ d.length) :
    lenField (d ++ e) = lenField d := by
  unfold lenField
  rw [byteAt_append_left d e 1 (by omega), byteAt_append_left d e 2 (by omega)]

theorem be24_append (d e : List UInt8) (i : Nat) (h : i + 3 ≤ d.length) :
    be24 (d ++ e) i = be24 d i := by
  unfold be24
  rw [byteAt_append_left d e i (by omega), byteAt_append_left d e (i+1) (by omega),
      byteAt_append_left d e (i+2) (by omega)]

theorem be24_append_right (d e : List UInt8) (i : Nat) :
    be24 (d ++ e) (d.length + i) = be24 e i := by
  unfold be24
  rw [byteAt_append_right, Nat.add_assoc, byteAt_append_right, Nat.add_assoc, byteAt_append_right]

theorem be24_three (a b c : UInt8) :
    be24 [a, b, c] 0 = a.toNat * 65536 + b.toNat * 256 + c.toNat := by
  have la : a.toNat < 2 ^ 8 := UInt8.toNat_lt a
  have lb : b.toNat < 2 ^ 8 := UInt8.toNat_lt b
  have lc : c.toNat < 2 ^ 8 := UInt8.toNat_lt c
  have hbe : be24 [a, b, c] 0 = (a.toNat <<< 16) ||| ((b.toNat <<< 8) ||| c.toNat) :=
    Nat.or_assoc _ _ _
  have hlow : b.toNat <<< 8 ||| c.toNat < 2 ^ 16 := by
    rw [← Nat.shiftLeft_add_eq_or_of_lt lc, Nat.shiftLeft_eq]; omega
  rw [hbe, ← Nat.shiftLeft_add_eq_or_of_lt hlow, ← Nat.shiftLeft_add_eq_or_of_lt lc,
    Nat.shiftLeft_eq, Nat.shiftLeft_eq]
  omega

theorem be24_crcBytes_zero (c : Nat) (h : c < 2 ^ 24) : be24 (crcBytes c) 0 = c := by
  rw [crcBytes, be24_three]
  simp only [UInt8.toNat_ofNat', Nat.shiftRight_eq_div_pow]
  omega

/-- `frameNew d` by its tests, in the order in which `MessageFrame::new` makes them: each
alternative holds what the earlier tests have established, the test that decides, and the result. -/
inductive FrameCase (d : List UInt8) : Prop
  | short (h6 : d.length < 6) (e : frameNew d = .error .incomplete)
  | noPreamble (h6 : 6 ≤ d.length) (hp : byteAt d 0 ≠ 0xd3) (e : frameNew d = .error .notValid)
  | truncated (h6 : 6 ≤ d.length) (hp : byteAt d 0 = 0xd3) (hl : d.length < lenField d + 6)
      (e : frameNew d = .error .incomplete)
  | badCrc (h6 : 6 ≤ d.length) (hp : byteAt d 0 = 0xd3) (hl : lenField d + 6 ≤ d.length)
      (hc : be24 d (lenField d + 3) ≠ crc24q (d.take (lenField d + 3)))
      (e : frameNew d = .error .notValid)
  | ok (h6 : 6 ≤ d.length) (hp : byteAt d 0 = 0xd3) (hl : lenField d + 6 ≤ d.length)
      (hc : be24 d (lenField d + 3) = crc24q (d.take (lenField d + 3)))
      (e : frameNew d = .ok { frameData := d.take (lenField d + 6)
                              data := (d.drop 3).take (lenField d)
                              crc := be24 d (lenField d + 3)
                              number := if 2 ≤ lenField d
                                then some ((byteAt d 3 <<< 4) ||| (byteAt d 4 >>> 4))
                                else none })

theorem frameNew_cases (d : List UInt8) : FrameCase d := by
  by_cases h1 : d.length < 6
  · exact .short h1 (by rw [frameNew, if_pos h1])
  by_cases h2 : byteAt d 0 ≠ 0xd3
  · exact .noPreamble (Nat.le_of_not_lt h1) h2 (by rw [frameNew, if_neg h1, if_pos h2])
  by_cases h3 : d.length < lenField d + 6
  · exact .truncated (Nat.le_of_not_lt h1) (Decidable.not_not.mp h2) h3
      (by simp only [frameNew, if_neg h1, if_neg h2, if_pos h3])
  by_cases h4 : be24 d (lenField d + 3) ≠ crc24q (d.take (lenField d + 3))
  · exact .badCrc (Nat.le_of_not_lt h1) (Decidable.not_not.mp h2) (Nat.le_of_not_lt h3) h4
      (by simp only [frameNew, if_neg h1, if_neg h2, if_neg h3, if_pos h4])
  · exact .ok (Nat.le_of_not_lt h1) (Decidable.not_not.mp h2) (Nat.le_of_not_lt h3)
      (Decidable.not_not.mp h4) (by simp only [frameNew, if_neg h1, if_neg h2, if_neg h3, if_neg h4])

theorem frameNew_ok_iff (d : List UInt8) (f : Frame) :
    frameNew d = .ok f ↔
      (6 ≤ d.length ∧ byteAt d 0 = 0xd3 ∧ lenField d + 6 ≤ d.length ∧
       be24 d (lenField d + 3) = crc24q (d.take (lenField d + 3)) ∧
       f = { frameData := d.take (lenField d + 6)
             data := (d.drop 3).take (lenField d)
             crc := be24 d (lenField d + 3)
             number := if 2 ≤ lenField d then some ((byteAt d 3 <<< 4) ||| (byteAt d 4 >>> 4))
                       else none }) := by
  cases frameNew_cases d with
  | short h6 e => rw [e]; exact iff_of_false (fun h => by cases h) (fun h => by omega)
  | noPreamble _ hp e => rw [e]; exact iff_of_false (fun h => by cases h) (fun h => hp h.2.1)
  | truncated _ _ hl e => rw [e]; exact iff_of_false (fun h => by cases h) (fun h => by omega)
  | badCrc _ _ _ hc e => rw [e]; exact iff_of_false (fun h => by cases h) (fun h => hc h.2.2.2.1)
  | ok h6 hp hl hc e =>
    rw [e]
    exact ⟨fun h => ⟨h6, hp, hl, hc, (Except.ok.inj h).symm⟩, fun h => h.2.2.2.2 ▸ rfl⟩

theorem frameNew_incomplete_iff (d : List UInt8) :
    frameNew d = .error .incomplete ↔
      (d.length < 6 ∨ (byteAt d 0 = 0xd3 ∧ d.length < lenField d + 6)) := by
  cases frameNew_cases d with
  | short h6 e => rw [e]; exact iff_of_true rfl (Or.inl h6)
  | noPreamble _ hp e =>
    rw [e]; exact iff_of_false (fun h => by cases h) (fun h => h.elim (by omega) fun h => hp h.1)
  | truncated _ hp hl e => rw [e]; exact iff_of_true rfl (Or.inr ⟨hp, hl⟩)
  | badCrc _ _ hl _ e =>
    rw [e]; exact iff_of_false (fun h => by cases h) (fun h => h.elim (by omega) fun h => by omega)
  | ok _ _ hl _ e =>
    rw [e]; exact iff_of_false (fun h => by cases h) (fun h => h.elim (by omega) fun h => by omega)

theorem frameNew_notValid_iff (d : List UInt8) :
    frameNew d = .error .notValid ↔
      (6 ≤ d.length ∧ (byteAt d 0 ≠ 0xd3 ∨
        (lenField d + 6 ≤ d.length ∧
          be24 d (lenField d + 3) ≠ crc24q (d.take (lenField d + 3))))) := by
  cases frameNew_cases d with
  | short h6 e => rw [e]; exact iff_of_false (fun h => by cases h) (fun h => by omega)
  | noPreamble h6 hp e => rw [e]; exact iff_of_true rfl ⟨h6, Or.inl hp⟩
  | truncated _ hp hl e =>
    rw [e]
    exact iff_of_false (fun h => by cases h) (fun h => h.2.elim (fun h => h hp) fun h => by omega)
  | badCrc h6 _ hl hc e => rw [e]; exact iff_of_true rfl ⟨h6, Or.inr ⟨hl, hc⟩⟩
  | ok _ hp _ hc e =>
    rw [e]
    exact iff_of_false (fun h => by cases h) (fun h => h.2.elim (fun h => h hp) fun h => h.2 hc)

theorem frameNew_outcomes (d : List UInt8) :
    (∃ f, frameNew d = .ok f) ∨ frameNew d = .error .incomplete ∨ frameNew d = .error .notValid := by
  rcases frameNew d with (_ | _) | f
  · exact Or.inr (Or.inl rfl)
  · exact Or.inr (Or.inr rfl)
  · exact Or.inl ⟨f, rfl⟩

/-- Any verdict other than "incomplete" is final: it does not change when bytes are appended. -/
theorem frameNew_append (d e : List UInt8) (h : frameNew d ≠ .error .incomplete) :
    frameNew (d ++ e) = frameNew d := by
  rw [Ne, frameNew_incomplete_iff, not_or, not_and, Nat.not_lt, Nat.not_lt] at h
  obtain ⟨h6, hl⟩ := h
  unfold frameNew
  rw [byteAt_append_left d e 0 (by omega), lenField_append d e (by omega), List.length_append,
    if_neg (by omega : ¬ d.length + e.length < 6), if_neg (by omega : ¬ d.length < 6)]
  by_cases hp : byteAt d 0 = 0xd3
  · have hl := hl hp
    simp only [hp, ne_eq, not_true_eq_false, if_false]
    rw [if_neg (by omega : ¬ d.length + e.length < lenField d + 6),
      if_neg (by omega : ¬ d.length < lenField d + 6), be24_append d e _ (by omega),
      List.take_append_of_le_length (by omega), List.take_append_of_le_length (by omega),
      byteAt_append_left d e 3 (by omega), byteAt_append_left d e 4 (by omega),
      List.drop_append_of_le_length (by omega),
      List.take_append_of_le_length (by rw [List.length_drop]; omega)]
  · rw [if_pos hp, if_pos hp]

theorem frameNew_append_ok (d e : List UInt8) (f : Frame) (h : frameNew d = .ok f) :
    frameNew (d ++ e) = .ok f := by
  rw [frameNew_append d e (by simp [h]), h]

theorem frameNew_append_notValid (d e : List UInt8) (h : frameNew d = .error .notValid) :
    frameNew (d ++ e) = .error .notValid := by
  rw [frameNew_append d e (by simp [h]), h]

theorem frameNew_ok_frameLen (d : List UInt8) (f : Frame) (h : frameNew d = .ok f) :
    f.frameLen = lenField d + 6 ∧ f.frameLen ≤ d.length ∧ 6 ≤ f.frameLen ∧
      f.frameData = d.take f.frameLen := by
  rw [frameNew_ok_iff] at h
  obtain ⟨h6, hp, hl, hc, hf⟩ := h
  subst hf
  simp only [Frame.frameLen, List.length_take]
  have : min (lenField d + 6) d.length = lenField d + 6 := by omega
  rw [this]
  exact ⟨rfl, hl, by omega, rfl⟩

theorem frameNew_frameData (d : List UInt8) (x : Frame) (h : frameNew d = .ok x) :
    frameNew x.frameData = .ok x := by
  obtain ⟨hlen, hle, h6, hdata⟩ := frameNew_ok_frameLen d x h
  have hd : x.frameData ++ d.drop x.frameLen = d := by rw [hdata, List.take_append_drop]
  have hfl : x.frameData.length = x.frameLen := rfl
  rw [← h, ← frameNew_append x.frameData (d.drop x.frameLen), hd]
  rw [Ne, frameNew_incomplete_iff, ← lenField_append _ (d.drop x.frameLen) (by omega), hd]
  omega

theorem forall_mem_pair {α : Type} {P : α → Prop} {a b : α} (ha : P a) (hb : P b) :
    ∀ x ∈ [a, b], P x :=
  List.forall_mem_cons.2 ⟨ha, List.forall_mem_singleton.2 hb⟩

namespace Sys

/-- `bs` is a frame with no trailing bytes: `frameNew` accepts it as `f`, and `f` spans all of `bs`. -/
def ExactFrame (bs : List UInt8) (f : Frame) : Prop :=
  frameNew bs = .ok f ∧ bs.length = f.frameLen

end Sys

end Rtcm
