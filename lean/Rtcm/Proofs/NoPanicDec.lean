import Rtcm.Proofs.WFSpec
import Rtcm.Proofs.BiasRead
import Rtcm.Proofs.BiasFloat
/-!
What `Bits.parse` returns (Proofs/BiasRead) is one of the carrier readings `DfWf.InRange` (the
negative-zero pattern of a sign-magnitude field reads as 0), and on those `DfWf.wf` keeps the integer
decode arithmetic inside the `dt` and the float results finite (C08). The leaves and the combinators
follow, one traversal of each function body.
-/
namespace Rtcm.NoPanic
open Rtcm.Bits Rtcm.Schema Rtcm.Df Rtcm.DfWf Rtcm.Text Rtcm.Interp Rtcm.WF

/-- no NaN and no infinity among the float tokens: what C02 claims of a decoded message -/
def FinIn (fmt : SoftFloat.Fmt) (toks : List Tok) : Prop :=
  ∀ b, Tok.flt b ∈ toks → (SoftFloat.ofBits fmt b).isFinite = true

theorem FinIn.nil (fmt : SoftFloat.Fmt) : FinIn fmt [] := fun _ h => by cases h

theorem FinIn.append {fmt : SoftFloat.Fmt} {a b : List Tok} (ha : FinIn fmt a) (hb : FinIn fmt b) :
    FinIn fmt (a ++ b) := fun x hx => by
  rcases List.mem_append.mp hx with h | h
  · exact ha x h
  · exact hb x h

theorem readValue_inRange (s : DfSpec) (x : Nat) (h1 : 1 ≤ s.len) (hlw : s.len ≤ s.it.w)
    (hx : x < 2 ^ s.len) : InRange s (carrierVal s.it (readValue s.it s.len x)) := by
  obtain ⟨id, dt, ⟨kind, w⟩, len, res, bias, round, inv, cap⟩ := s
  simp only at h1 hlw hx
  have c1 : ((2 : Int) ^ len) = ((2 ^ len : Nat) : Int) := by simp
  have c2 : ((2 : Int) ^ (len - 1)) = ((2 ^ (len - 1) : Nat) : Int) := by simp
  unfold InRange svLo svHi carrierVal IT.signed
  cases kind
  · simp only [c1, readValue]
    rw [if_neg (by decide)]
    omega
  · have := toInt_bounds h1 hx
    simp only [c2]
    rw [if_pos (by decide), toInt_readValue_i w h1 hlw hx]
    omega
  · have := smInt_bounds h1 hx
    simp only [c2]
    rw [if_pos (by decide), toInt_readValue_sm w h1 hlw hx]
    omega

theorem parseBytes_np (cfg : Cfg) (n : Nat) (c : Cur) : NP (parseBytes cfg n c) := by
  induction n generalizing c with
  | zero => trivial
  | succ n ih =>
    rw [parseBytes_succ]
    exact (parseU_np cfg 8 8 c).bind fun _ _ =>
      (ih _).bind fun _ _ => trivial

theorem strDecode_np (cfg : Cfg) (cap lenBits : Nat) (c : Cur) (hW : Widths 8 lenBits) :
    NP (strDecode cfg cap lenBits c) := by
  rw [strDecode_eq]
  exact (parseU_np cfg 8 lenBits c hW).bind fun (len, c') _ =>
    .ite (fun _ => trivial) fun _ => (parseBytes_np cfg len c').bind fun _ _ => trivial

theorem text1029Decode_np (cfg : Cfg) (c : Cur) : NP (text1029Decode cfg c) := by
  rw [text1029Decode_eq]
  exact (parseU_np cfg 8 7 c).bind fun (_, c1) _ =>
    (parseU_np cfg 8 8 c1).bind fun _ _ =>
      .ite (fun _ => trivial) fun _ => .ite (fun _ => trivial) fun _ => trivial

theorem dequantise_safe (cfg : Cfg) (s : DfSpec) (sv : Int) (hw : wf s = true) (hr : InRange s sv) :
    Safe (Df.dequantise cfg s sv) fun t =>
      ∀ b, t = .flt b → (SoftFloat.ofBits (fmtOf s.dt) b).isFinite = true := by
  by_cases hf : s.dt.isFloat = true
  · obtain ⟨b', hb', -, hfin, -⟩ := DfLaws.flt_roundtrip cfg s sv hf hw hr
    rw [hb']
    intro b hb
    cases hb
    exact hfin
  · -- an integer field: the token is accepted by `quantise`, which rejects a float token
    obtain ⟨t, ht, hq⟩ := DfLaws.value_roundtrip cfg s sv hw hr
    rw [ht]
    intro b hb
    subst hb
    rw [Df.quantise, if_neg hf] at hq
    cases hq

theorem dfDecode_safe (cfg : Cfg) (s : DfSpec) (c : Cur) (hw : wf s = true) :
    Safe (Df.decode cfg s c) fun (toks, _) => FinIn (fmtOf s.dt) toks := by
  have hW := widths_of_wf hw
  have hparse : Safe (parse cfg s.it c.data c.off s.len) fun (p, _) => InRange s (carrierVal s.it p) := by
    rcases parse_total cfg s.it c.data c.off s.len hW with hp | hp <;> rw [hp]
    · trivial
    · exact readValue_inRange s _ hW.pos hW.le (fieldValue_lt ..)
  rw [Df.decode_toks]
  refine hparse.bind fun (p, o) hr => (dequantise_safe cfg s _ hw hr).bind fun t ht b h => ?_
  rcases Df.mem_toksOf h with e | e | e
  · cases e
  · cases e
  · exact ht b e.symm

theorem countDecode_safe (cfg : Cfg) {l : DfSpec} (hl : CountField l) (c : Cur) :
    Safe (Df.decode cfg l c) fun (tn, _) => ∃ n, tn = [.int n] := by
  rw [Df.decode_toks]
  refine (parse_np cfg l.it c.data c.off l.len (widths_of_wf hl.wf)).bind fun (p, o) _ => ?_
  simp only [Df.dequantise, Df.toksOf, hl.int, hl.res, hl.bias, hl.inv, Bool.false_eq_true, if_false]
  exact ⟨_, rfl⟩

theorem decColumn_sat {Q : List Tok → Prop} {E : RtcmError → Prop} {P : String → Prop} (cfg : Cfg) (s : DfSpec)
    (hd : ∀ c, (Df.decode cfg s c).Sat (fun (t, _) => Q t) E P) :
    ∀ (n : Nat) (c : Cur), (Msm.decColumn cfg s n c).Sat (fun (col, _) => col.length = n ∧ ∀ t ∈ col, Q t) E P
  | 0, _ => ⟨rfl, fun _ h => nomatch h⟩
  | n + 1, c => by
    rw [Msm.decColumn_succ]
    exact (hd c).bind fun (t, c') ht => (decColumn_sat cfg s hd n c').bind fun (ts, _) hts =>
      ⟨congrArg (· + 1) hts.1, List.forall_mem_cons.mpr ⟨ht, hts.2⟩⟩

theorem decColumns_sat {Q : DfSpec → List Tok → Prop} {E : RtcmError → Prop} {P : String → Prop} (cfg : Cfg)
    (n : Nat) : ∀ (fs : List (String × DfSpec)),
      (∀ f ∈ fs, ∀ c, (Df.decode cfg f.2 c).Sat (fun (t, _) => Q f.2 t) E P) → ∀ c : Cur,
      (Msm.decColumns cfg n fs c).Sat
        (fun (cols, _) => List.Forall₂ (fun f col => col.length = n ∧ ∀ t ∈ col, Q f.2 t) fs cols) E P
  | [], _, _ => .nil
  | (nm, s) :: fs, hd, c => by
    rw [Msm.decColumns_cons]
    exact (decColumn_sat cfg s (hd (nm, s) (List.mem_cons_self ..)) n c).bind fun (col, c') hcol =>
      (decColumns_sat cfg n fs (fun f hf => hd f (List.mem_cons_of_mem _ hf)) c').bind fun (cols, _) hcols =>
        .cons hcol hcols

theorem decColumns_safe (cfg : Cfg) (n : Nat) (fs : List (String × DfSpec)) (hw : wfSpecs fs = true)
    (c : Cur) : Safe (Msm.decColumns cfg n fs c) fun (cols, _) =>
      List.Forall₂ (fun f col => ∀ t ∈ col, FinIn (fmtOf f.2.dt) t) fs cols :=
  (decColumns_sat (Q := fun s t => FinIn (fmtOf s.dt) t) cfg n fs
    (fun f hf c => dfDecode_safe cfg f.2 c (wfSpecs_iff.mp hw f hf)) c).imp
    fun _ h => h.imp fun _ _ h => h.2

theorem lookupSigs_np (tbl : SigTable) (l : List (Nat × Nat)) : NP (Msm.lookupSigs tbl l) := by
  induction l with
  | nil => trivial
  | cons x l ih =>
    obtain ⟨sat, sid⟩ := x
    rw [Msm.lookupSigs_cons]
    split
    · exact ih.bind fun _ _ => trivial
    · trivial

def FinRow (fs : List (String × DfSpec)) (fields : List (List Tok)) : Prop :=
  List.Forall₂ (fun f t => FinIn (fmtOf f.2.dt) t) fs fields

theorem rowOf_fin (fs : List (String × DfSpec)) (cols : List (List (List Tok))) (i : Nat)
    (h : List.Forall₂ (fun f col => ∀ t ∈ col, FinIn (fmtOf f.2.dt) t) fs cols) :
    FinRow fs (Msm.rowOf cols i) := by
  unfold FinRow Msm.rowOf
  induction h with
  | nil => exact .nil
  | @cons f col fs cols hd _ ih =>
    refine .cons ?_ ih
    show FinIn (fmtOf f.2.dt) (col.getD i [])
    rw [List.getD_eq_getElem?_getD]
    cases hc : col[i]? with
    | none => exact FinIn.nil _
    | some t => exact hd t (List.mem_of_getElem? hc)

theorem msmDecode_safe (cfg : Cfg) (tbl : SigTable) (satFields sigFields : List (String × DfSpec))
    (hsat : wfSpecs satFields = true) (hsig : wfSpecs sigFields = true) (c : Cur) :
    Safe (Msm.decode cfg tbl satFields sigFields c) fun (sats, sigs, _) =>
      (∀ r ∈ sats, FinRow satFields r.fields) ∧ (∀ r ∈ sigs, FinRow sigFields r.fields) := by
  rw [Msm.decode_eq]
  refine (parseU_np cfg 64 64 c).bind fun (satMask, c1) _ =>
    (parseU_np cfg 32 32 c1).bind fun (sigMask, c2) _ =>
      .ite (fun _ => ⟨fun _ h => (nomatch h), fun _ h => (nomatch h)⟩) fun _ =>
      .ite (fun _ => trivial) fun hlen =>
      (parseU_np cfg 64 _ c2 ⟨by decide, by decide, by omega, by omega⟩).bind fun (cellMask, c3) _ =>
      (decColumns_safe cfg _ satFields hsat c3).bind fun (satCols, c4) f1 =>
      (lookupSigs_np tbl _).bind fun cellSigs _ =>
      (decColumns_safe cfg _ sigFields hsig c4).bind fun (sigCols, _) f2 => ⟨?_, ?_⟩
  · intro r hr
    obtain ⟨i, -, rfl⟩ := List.mem_map.mp hr
    exact rowOf_fin satFields satCols i f1
  · intro r hr
    obtain ⟨i, -, rfl⟩ := List.mem_map.mp hr
    exact rowOf_fin sigFields sigCols i f2

section
open Rtcm.Bias

def BiasFin (es : List Bias.Entry) : Prop :=
  ∀ e ∈ es, (SoftFloat.ofBits SoftFloat.binary32 e.bias).isFinite = true

theorem read14_finite {p : Params} {e : Entry} (h : Read14 p e) :
    (SoftFloat.ofBits SoftFloat.binary32 e.bias).isFinite = true := by
  obtain ⟨_, sv, h1, h2, hb⟩ := h
  rw [hb]
  exact BiasFloat.dequantBias_finite 14 1 _ BiasFloat.evalF_001 BiasFloat.wf14 sv
    (show -8192 ≤ sv ∧ sv ≤ 8191 from ⟨by omega, by omega⟩)

theorem biasDecode_safe (cfg : Cfg) (p : Params) (hW : Widths 8 p.satBits) (c : Cur) :
    Safe (decode cfg p c) fun (es, _) => BiasFin es :=
  (decode_sat cfg p c).imp (fun _ h e he => read14_finite (h.2 e he)) (hp := fun _ h => h hW)

theorem decode1230_safe (cfg : Cfg) (c : Cur) : Safe (decode1230 cfg c) fun (es, _) => BiasFin es :=
  (decode1230_sat cfg c).imp fun _ h e he => by
    obtain ⟨_, sv, h1, h2, hb⟩ := h.2 e he
    rw [hb]
    exact BiasFloat.dequantBias_finite 16 2 _ BiasFloat.evalF_002 BiasFloat.wf16 sv
      (show -32768 ≤ sv ∧ sv ≤ 32767 from ⟨h1, by omega⟩)

theorem biasToks_finite (withSat : Bool) (es : List Bias.Entry) (h : BiasFin es) :
    FinIn SoftFloat.binary32 (biasToks withSat es) := by
  intro b hb
  rcases List.mem_cons.mp hb with hb | hb
  · cases hb
  obtain ⟨e, he, hb⟩ := List.mem_flatMap.mp hb
  rcases List.mem_append.mp hb with hb | hb
  · -- the satellite number, where present, is an integer token
    cases withSat
    · cases hb
    · cases List.mem_singleton.mp hb
  · rcases List.mem_cons.mp hb with hb | hb
    · cases hb
    · cases List.mem_singleton.mp hb
      exact h e he

end

theorem decRepeat_sat {f : Dec} {Q : List Tok → Prop} {E : RtcmError → Prop} {P : String → Prop}
    (hf : ∀ c, (f c).Sat (fun (t, _) => Q t) E P) (n : Nat) (c : Cur) :
    (decRepeat f n c).Sat (fun (ts, _) => ∃ tes, ts = List.flatten tes ∧ ∀ te ∈ tes, Q te) E P := by
  induction n generalizing c with
  | zero => exact ⟨[], rfl, fun _ h => nomatch h⟩
  | succ n ih =>
    rw [decRepeat_succ]
    exact (hf c).bind fun (t, c') ht => (ih c').bind fun (ts, _) ⟨tes, e, htes⟩ =>
      ⟨t :: tes, e ▸ List.flatten_cons.symm, List.forall_mem_cons.mpr ⟨ht, htes⟩⟩

mutual
/-- every float of `toks` is finite in the format of the field of `f` that produced it; the stream is
split along the combinators of `f`, and a string or text leaf imposes nothing -/
def FinFrag : Frag → List Tok → Prop
  | .df s, toks => FinIn (fmtOf s.dt) toks
  | .str _ _, _ => True
  | .text1029, _ => True
  | .bias1059 _ _, toks => FinIn SoftFloat.binary32 toks
  | .bias1065 _ _, toks => FinIn SoftFloat.binary32 toks
  | .bias1230, toks => FinIn SoftFloat.binary32 toks
  | .seq fs, toks => FinFields fs toks
  | .lenMiddle f1 _ f2 e _, toks =>
    ∃ t1 n t2 tes, toks = t1 ++ [.count n] ++ t2 ++ List.flatten tes ∧ FinFields f1 t1 ∧
      FinFields f2 t2 ∧ ∀ te ∈ tes, FinFrag e te
  | .vecWithLen e _ _, toks => ∃ n tes, toks = .count n :: List.flatten tes ∧ ∀ te ∈ tes, FinFrag e te
  | .grid16 e, toks => ∃ tes, toks = List.flatten tes ∧ ∀ te ∈ tes, FinFrag e te
  | .msm _ sat sig, toks =>
    ∃ sats sigs, toks = satToks sats ++ sigToks sigs ∧ (∀ r ∈ sats, FinRow sat r.fields) ∧
      (∀ r ∈ sigs, FinRow sig r.fields)
def FinFields : Fields → List Tok → Prop
  | .nil, toks => toks = []
  | .cons _ f rest, toks => ∃ t ts, toks = t ++ ts ∧ FinFrag f t ∧ FinFields rest ts
end

mutual
theorem decFrag_safe (cfg : Cfg) :
    ∀ (f : Frag), WFFrag f = true → ∀ c, Safe (decFrag cfg f c) fun (toks, _) => FinFrag f toks
  | .df s, hw, c => dfDecode_safe cfg s c hw
  | .str cap lenBits, hw, c => by
    rw [decFrag_str]
    exact (strDecode_np cfg cap lenBits c (wfFrag_str.mp hw)).bind fun _ _ => trivial
  | .text1029, _, c => by
    rw [decFrag_text1029]
    exact (text1029Decode_np cfg c).bind fun _ _ => trivial
  | .bias1059 cap tbl, _, c => by
    rw [decFrag_bias1059]
    exact (biasDecode_safe cfg _ (widths_1059 cap tbl) c).bind fun (es, _) h =>
      biasToks_finite true es h
  | .bias1065 cap tbl, _, c => by
    rw [decFrag_bias1065]
    exact (biasDecode_safe cfg _ (widths_1065 cap tbl) c).bind fun (es, _) h =>
      biasToks_finite true es h
  | .bias1230, _, c => by
    rw [decFrag_bias1230]
    exact (decode1230_safe cfg c).bind fun (es, _) h => biasToks_finite false es h
  | .seq fs, hw, c => decFields_safe cfg fs hw c
  | .lenMiddle f1 l f2 e cap, hw, c => by
    obtain ⟨h1, hl, h2, he⟩ := wfFrag_lenMiddle.mp hw
    have hl := wfCount_spec.mp hl
    rw [decFrag_lenMiddle]
    refine (decFields_safe cfg f1 h1 c).bind fun (t1, c1) ht1 =>
      (countDecode_safe cfg hl c1).bind fun (tn, c2) h => ?_
    obtain ⟨n, rfl⟩ := h
    exact (decFields_safe cfg f2 h2 c2).bind fun (t2, c3) ht2 => .ite (fun _ => trivial) fun _ =>
      (decRepeat_sat (decFrag_safe cfg e he) n.toNat c3).bind fun (te, _) ⟨tes, h, htes⟩ =>
        ⟨t1, n.toNat, t2, tes, h ▸ rfl, ht1, ht2, htes⟩
  | .vecWithLen e cap lenBits, hw, c => by
    obtain ⟨hW, he⟩ := wfFrag_vecWithLen.mp hw
    rw [decFrag_vecWithLen]
    exact (parse_np cfg ⟨.u, 16⟩ c.data c.off lenBits hW).bind
      fun (n, o) _ => .ite (fun _ => trivial) fun _ =>
        (decRepeat_sat (decFrag_safe cfg e he) n _).bind fun (te, _) ⟨tes, h, htes⟩ => ⟨n, tes, h ▸ rfl, htes⟩
  | .grid16 e, hw, c => decRepeat_sat (decFrag_safe cfg e hw) 16 c
  | .msm tbl sat sig, hw, c => by
    obtain ⟨-, hsat, hsig⟩ := wfFrag_msm.mp hw
    rw [decFrag_msm]
    exact (msmDecode_safe cfg tbl sat sig hsat hsig c).bind fun (sats, sigs, _) h => ⟨sats, sigs, rfl, h⟩
theorem decFields_safe (cfg : Cfg) :
    ∀ (fs : Fields), WFFields fs = true → ∀ c, Safe (decFields cfg fs c) fun (toks, _) => FinFields fs toks
  | .nil, _, c => rfl
  | .cons _ f rest, hw, c => by
    obtain ⟨hf, hr⟩ := wfFields_cons.mp hw
    rw [decFields_cons]
    exact (decFrag_safe cfg f hf c).bind fun (t, c') ht =>
      (decFields_safe cfg rest hr c').bind fun (ts, _) hts => ⟨t, ts, rfl, ht, hts⟩
end

theorem decFrag_finite (cfg : Cfg) (f : Frag) (hw : WFFrag f = true) (c : Cur) (toks : List Tok) (c' : Cur)
    (h : decFrag cfg f c = .ok (toks, c')) : FinFrag f toks :=
  (decFrag_safe cfg f hw c).of_ok h

theorem decFields_finite (cfg : Cfg) :
    ∀ (fs : Fields), WFFields fs = true → ∀ (c : Cur) (toks : List Tok) (c' : Cur),
      decFields cfg fs c = .ok (toks, c') → FinFields fs toks :=
  fun fs hw c _ _ h => (decFields_safe cfg fs hw c).of_ok h

end Rtcm.NoPanic
