import Rtcm.Proofs.CurLaws
import Rtcm.Proofs.WFSpec
import Rtcm.Proofs.DecEqns
import Rtcm.Proofs.ResLaws
/-!
A successful decode keeps the buffer, only moves the cursor forward, and depends only on the bits
between the old and the new cursor: from ANY byte buffer `D'` that has room up to the new cursor and
carries the same bits on `[o, o')`, the decoder returns the same tokens and stops at the same offset
(`Local`).  In particular the buffer may be SHORTER than the one the frame was written into — this
is how the 1023-byte window of the builder is cut down to the payload of the frame. `Local` composes
along `>>=`, so that the fragment-level codec law only has to speak about decoding from the buffer
the encoder left.
-/
namespace Rtcm.DecLocal
open Rtcm.Bits Rtcm.Schema Rtcm.Interp Rtcm.CurLaws Rtcm.Text

def Bytes (D : List Nat) : Prop := ∀ d ∈ D, d < 256

/-- `Bytes D → Bytes D'` is there for the 1029 text field alone: it copies whole bytes out of the
buffer, and equal bits give equal bytes only for bytes (`Bits.byte_ext`). Every other reader goes
through `Bits.parse` and does not use the two hypotheses. -/
def LocalG {α : Type} (d : Cur → Res (α × Cur)) : Prop :=
  ∀ D o t c', d ⟨D, o⟩ = .ok (t, c') → c'.data = D ∧ o ≤ c'.off ∧
    ∀ D', Bytes D → Bytes D' → c'.off ≤ 8 * D'.length → AgreeOn D' D o c'.off →
      d ⟨D', o⟩ = .ok (t, ⟨D', c'.off⟩)

abbrev Local (d : Dec) : Prop := LocalG d

theorem parseF_local (cfg : Cfg) (it : IT) {len : Nat} (hW : Bits.Widths it.w len) {D : List Nat} {o v : Nat}
    {c1 : Cur}
    (h : parseF cfg it len ⟨D, o⟩ = .ok (v, c1)) :
    c1 = ⟨D, o + len⟩ ∧ o + len ≤ 8 * D.length ∧
    ∀ D', o + len ≤ 8 * D'.length → AgreeOn D' D o (o + len) →
      parseF cfg it len ⟨D', o⟩ = .ok (v, ⟨D', o + len⟩) := by
  rcases Nat.lt_or_ge (8 * D.length) (o + len) with hov | hfit
  · rw [parseF_overflow cfg it D o hov] at h
    cases h
  · rw [parseF_at cfg it hW D o hfit] at h
    cases h
    exact ⟨rfl, hfit, fun D' hf ha => by rw [parseF_at cfg it hW D' o hf, Bits.fieldValue_ext ha]⟩

theorem parseU_local (cfg : Cfg) {w len : Nat} {D : List Nat} {o v : Nat} {c1 : Cur}
    (h : parseU cfg w len ⟨D, o⟩ = .ok (v, c1)) (hW : Bits.Widths w len := by decide) :
    c1 = ⟨D, o + len⟩ ∧ o + len ≤ 8 * D.length ∧
    ∀ D', o + len ≤ 8 * D'.length → AgreeOn D' D o (o + len) →
      parseU cfg w len ⟨D', o⟩ = .ok (v, ⟨D', o + len⟩) :=
  parseF_local cfg ⟨.u, w⟩ hW h

theorem localG_pure {α : Type} (a : α) : LocalG (fun c => .ok (a, c)) := by
  intro D o t c' h
  simp only [Res.ok.injEq, Prod.mk.injEq] at h
  obtain ⟨rfl, rfl⟩ := h
  exact ⟨rfl, Nat.le_refl _, fun D' _ _ _ _ => rfl⟩

theorem localG_err {α : Type} (e : RtcmError) : LocalG (fun _ => (.err e : Res (α × Cur))) := by
  intro D o t c' h; cases h

theorem localG_panic {α : Type} (w : String) : LocalG (fun _ => (.panic w : Res (α × Cur))) := by
  intro D o t c' h; cases h

theorem LocalG.bind {α β : Type} {d1 : Cur → Res (α × Cur)} {d2 : α → Cur → Res (β × Cur)}
    (h1 : LocalG d1) (h2 : ∀ a, LocalG (d2 a)) : LocalG (fun c => d1 c >>= fun p => d2 p.1 p.2) := by
  intro D o t c' h
  obtain ⟨⟨t1, c1⟩, e1, e2⟩ := Res.bind_eq_ok h
  obtain ⟨hd1, hm1, l1⟩ := h1 D o t1 c1 e1
  obtain ⟨D1, o1⟩ := c1
  simp only at hd1 hm1 l1
  subst hd1
  obtain ⟨hd2, hm2, l2⟩ := h2 t1 D1 o1 t c' e2
  refine ⟨hd2, Nat.le_trans hm1 hm2, ?_⟩
  intro D' hb hb' hf ha
  simp only
  rw [l1 D' hb hb' (by omega) (ha.mono (Nat.le_refl _) hm2)]
  exact l2 D' hb hb' hf (ha.mono hm1 (Nat.le_refl _))

theorem LocalG.bind_const {α β : Type} (r : Res α) {d2 : α → Cur → Res (β × Cur)}
    (h2 : ∀ a, LocalG (d2 a)) : LocalG (fun c => r >>= fun a => d2 a c) := by
  cases r with
  | ok a => exact h2 a
  | err e => exact localG_err e
  | panic w => exact localG_panic w

theorem localG_ite {α : Type} (p : Prop) [Decidable p] {A B : Cur → Res (α × Cur)}
    (hA : p → LocalG A) (hB : ¬ p → LocalG B) : LocalG (fun c => if p then A c else B c) := by
  split
  · exact hA ‹_›
  · exact hB ‹_›

theorem localG_option {α β : Type} (o : Option α) {A : α → Cur → Res (β × Cur)}
    {B : Cur → Res (β × Cur)} (hA : ∀ a, LocalG (A a)) (hB : LocalG B) :
    LocalG (fun c => match o with | some a => A a c | none => B c) := by
  cases o with
  | none => exact hB
  | some a => exact hA a

theorem LocalG.congr {α : Type} {d d' : Cur → Res (α × Cur)} (h : LocalG d') (e : ∀ c, d c = d' c) :
    LocalG d := by
  have : d = d' := funext e
  rw [this]; exact h

theorem local_repeat {d : Dec} (hd : Local d) : ∀ n, Local (decRepeat d n)
  | 0 => localG_pure []
  | n + 1 => (hd.bind fun t => (local_repeat hd n).bind fun ts => localG_pure (t ++ ts)).congr fun c =>
    decRepeat_succ d n c

theorem parseF_localG (cfg : Cfg) (it : IT) {len : Nat} (hW : Bits.Widths it.w len) :
    LocalG (parseF cfg it len) := by
  intro D o v c1 h
  obtain ⟨rfl, _, hl⟩ := parseF_local cfg it hW h
  exact ⟨rfl, Nat.le_add_right _ _, fun D' _ _ hf ha => hl D' hf ha⟩

theorem parseU_localG (cfg : Cfg) (w len : Nat) (hW : Bits.Widths w len := by decide) :
    LocalG (parseU cfg w len) :=
  parseF_localG cfg ⟨.u, w⟩ hW

/-- `Df.decode` reads one field, then computes without reading -/
theorem decode_eq_parseF (cfg : Cfg) (s : DfSpec) (c : Cur) :
    Df.decode cfg s c =
      parseF cfg s.it s.len c >>= fun q => Df.dequantise cfg s (Df.carrierVal s.it q.1) >>= fun t =>
        .ok (Df.toksOf s (Df.carrierVal s.it q.1) t, q.2) := by
  rw [Df.decode_toks]
  unfold parseF
  cases parse cfg s.it c.data c.off s.len with
  | ok r => rfl
  | err e => rfl
  | panic w => rfl

theorem df_local (cfg : Cfg) (s : DfSpec) (hs : Bits.Widths s.it.w s.len) : Local (Df.decode cfg s) :=
  ((parseF_localG cfg s.it hs).bind fun p =>
    LocalG.bind_const (Df.dequantise cfg s (Df.carrierVal s.it p)) fun t =>
      localG_pure (Df.toksOf s (Df.carrierVal s.it p) t)).congr fun c => decode_eq_parseF cfg s c

theorem parseBytes_local (cfg : Cfg) : ∀ n, LocalG (parseBytes cfg n)
  | 0 => localG_pure []
  | n + 1 =>
    ((parseU_localG cfg 8 8).bind fun b =>
      (parseBytes_local cfg n).bind fun bs => localG_pure (b :: bs)).congr fun c => parseBytes_succ cfg n c

theorem strDecode_local (cfg : Cfg) (cap lenBits : Nat) (hW : Widths 8 lenBits) :
    LocalG (strDecode cfg cap lenBits) :=
  ((parseU_localG cfg 8 lenBits hW).bind fun len =>
    localG_ite (len > cap) (fun _ => localG_err .capacityExceeded) fun _ =>
      (parseBytes_local cfg len).bind fun bs => localG_pure (bs.map pushNorm)).congr fun c =>
        strDecode_eq cfg cap lenBits c

theorem localG_of_data {α : Type} {d : Cur → Res (α × Cur)} (h : LocalG d) {c : Cur} {t : α} {c' : Cur}
    (e : d c = .ok (t, c')) : c'.data = c.data ∧ c.off ≤ c'.off ∧
    ∀ D', Bytes c.data → Bytes D' → c'.off ≤ 8 * D'.length → AgreeOn D' c.data c.off c'.off →
      d ⟨D', c.off⟩ = .ok (t, ⟨D', c'.off⟩) := by
  obtain ⟨D, o⟩ := c
  exact h D o t c' e

section Bias
open Rtcm.Bias

theorem parseI16_localG (cfg : Cfg) (len : Nat) (hW : Bits.Widths 16 len := by decide) :
    LocalG (parseI16 cfg len) :=
  ((parseF_localG cfg ⟨.i, 16⟩ hW).bind fun v =>
    localG_pure (toInt 16 v)).congr (parseI16_eq cfg len)

-- the match on `Sig.toSig` unfolds in the defeq check only with smart unfolding off
set_option smartUnfolding false in
theorem decBiases_local (cfg : Cfg) (p : Params) (sat : Nat) :
    ∀ (n : Nat) (acc : List Entry), LocalG (decBiases cfg p sat n acc)
  | 0, acc => localG_pure acc
  | n + 1, acc =>
    ((parseU_localG cfg 8 5).bind
      fun sid => localG_option (Sig.toSig p.tbl sid)
        (fun ba => (parseI16_localG cfg 14).bind fun sv =>
          localG_ite (acc.length ≥ p.cap) (fun _ => localG_err .capacityExceeded) fun _ =>
            decBiases_local cfg p sat n
              (acc ++ [{ sat := sat, band := ba.1, attr := ba.2, bias := dequantBias res001 sv }]))
        (decBiases_local cfg p sat n acc)).congr fun c => decBiases_succ cfg p sat n acc c

theorem decSats_local (cfg : Cfg) (p : Params) (hW : Widths 8 p.satBits) :
    ∀ (n : Nat) (acc : List Entry), LocalG (decSats cfg p n acc)
  | 0, acc => localG_pure acc
  | n + 1, acc =>
    ((parseU_localG cfg 8 p.satBits hW).bind fun sat =>
      (parseU_localG cfg 8 5).bind
        fun num => (decBiases_local cfg p sat num acc).bind fun acc' =>
          decSats_local cfg p hW n acc').congr fun c => decSats_succ cfg p n acc c

theorem biasDecode_local (cfg : Cfg) (p : Params) (hW : Widths 8 p.satBits) :
    LocalG (Bias.decode cfg p) :=
  ((parseU_localG cfg 8 6).bind
    fun n => decSats_local cfg p hW n []).congr fun c => Bias.decode_eq cfg p c

theorem bias1059_local (cfg : Cfg) (cap : Nat) (tbl : SigTable) :
    Local (decFrag cfg (.bias1059 cap tbl)) :=
  ((biasDecode_local cfg _ (widths_1059 cap tbl)).bind
    fun es => localG_pure (biasToks true es)).congr fun c => decFrag_bias1059 cfg cap tbl c

theorem bias1065_local (cfg : Cfg) (cap : Nat) (tbl : SigTable) :
    Local (decFrag cfg (.bias1065 cap tbl)) :=
  ((biasDecode_local cfg _ (widths_1065 cap tbl)).bind
    fun es => localG_pure (biasToks true es)).congr fun c => decFrag_bias1065 cfg cap tbl c

theorem dec1230Loop_local (cfg : Cfg) (mask : Nat) : ∀ T, LocalG (dec1230Loop cfg mask T)
  | [] => localG_pure []
  | ((b, a), bit) :: T =>
    (localG_ite (mask &&& bit ≠ 0)
      (fun _ => (parseI16_localG cfg 16).bind fun sv =>
        (dec1230Loop_local cfg mask T).bind fun es => localG_pure
          (({ sat := 0, band := b, attr := a, bias := dequantBias res002 sv } : Entry) :: es))
      fun _ => dec1230Loop_local cfg mask T).congr fun c => dec1230Loop_cons cfg mask b a bit T c

theorem decode1230_local (cfg : Cfg) : LocalG (decode1230 cfg) :=
  ((parseU_localG cfg 8 4).bind
    fun mask => dec1230Loop_local cfg mask gloTable1230).congr fun c => decode1230_eq cfg c

theorem bias1230_local (cfg : Cfg) : Local (decFrag cfg .bias1230) :=
  ((decode1230_local cfg).bind fun es => localG_pure (biasToks false es)).congr fun c =>
    decFrag_bias1230 cfg c

end Bias

end Rtcm.DecLocal
