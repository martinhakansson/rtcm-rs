import Rtcm.Proofs.DfLaws
import Rtcm.Proofs.DfErr
import Rtcm.Proofs.FloatBits
/-!
Under `wfFlt` every operation of `Df.quantise` / `Df.dequantise` works on finite data and is `rnd`
of the exact result, because the magnitude bounds of `NumOK` exclude overflow: the bodies compute
`qk` and `dx` of DfErr. The decoded datum is a rounded value, hence survives `toBits` / `ofBits`;
the round trip is `enc_chain` applied to the decode errors.
-/
namespace Rtcm.DfLaws
open Rtcm.Schema Rtcm.SoftFloat Rtcm.Df Rtcm.DfWf

/-- `wfFlt s` with its constants named: `re` is the `res` expression, `r = fl(res)`, `b = fl(bias)`
(`0` without bias) -/
structure FltOK (s : DfSpec) (re : FExpr) (r b : ℚ) : Prop where
  len_lt : s.len < (fmtOf s.dt).p
  res_eq : s.res = some re
  res_val : evalF (fmtOf s.dt) re = .fin false r
  round_eq : s.round = some true
  bias_none : s.bias.isSome = false → b = 0
  bias_some : ∀ be, s.bias = some be → evalF (fmtOf s.dt) be = .fin false b ∧ s.it.kind = .u
  numOK : NumOK (fmtOf s.dt) s.len r b

/-- `fl(res)` of a float field (1 if absent or not a finite float of sign `+`) -/
def resVal (s : DfSpec) : ℚ := (fconst (fmtOf s.dt) s.res 1).getD 1

/-- `fl(bias)` of a float field (0 if absent or not a finite float of sign `+`) -/
def biasVal (s : DfSpec) : ℚ := (fconst (fmtOf s.dt) s.bias 0).getD 0

theorem fconst_some {fmt : Fmt} {e : FExpr} {d m : ℚ} (h : fconst fmt (some e) d = some m) :
    evalF fmt e = .fin false m := by
  simp only [fconst] at h
  split at h
  · rename_i heq; rw [heq, Option.some.inj h]
  · cases h

theorem wfFlt_spec {s : DfSpec} (h : wfFlt s = true) : ∃ re, FltOK s re (resVal s) (biasVal s) := by
  unfold wfFlt at h
  simp only [Bool.and_eq_true, decide_eq_true_eq, Bool.or_eq_true, beq_iff_eq] at h
  obtain ⟨⟨⟨⟨hlen, hres⟩, hround⟩, hkind⟩, hm⟩ := h
  obtain ⟨re, hre⟩ := Option.isSome_iff_exists.mp hres
  rcases hr : fconst (fmtOf s.dt) s.res 1 with _ | r
  · simp [hr] at hm
  rcases hb : fconst (fmtOf s.dt) s.bias 0 with _ | b
  · simp [hr, hb] at hm
  simp only [hr, hb] at hm
  have er : resVal s = r := by rw [resVal, hr]; rfl
  have eb : biasVal s = b := by rw [biasVal, hb]; rfl
  rw [er, eb]
  refine ⟨re, hlen, hre, fconst_some (hre ▸ hr), hround, fun h0 => ?_, fun be hbe => ?_, wfNum_spec hm⟩
  · rw [Option.isSome_eq_false_iff.mp h0 |> Option.isNone_iff_eq_none.mp] at hb
    exact (Option.some.inj hb).symm
  · refine ⟨fconst_some (hbe ▸ hb), hkind.resolve_left ?_⟩
    rw [hbe]; simp

theorem wf_flt {s : DfSpec} (hw : DfWf.wf s = true) (hf : s.dt.isFloat = true) :
    wfBasic s = true ∧ ∃ re, FltOK s re (resVal s) (biasVal s) := by
  obtain ⟨hb, -, hk⟩ := wf_parts hw
  rw [if_pos hf] at hk
  exact ⟨hb, wfFlt_spec hk⟩

theorem good_fmtOf (dt : DT) : (fmtOf dt).Good := by
  unfold fmtOf
  split
  exacts [good_binary32, good_binary64]

theorem fmtOf_p_pos (dt : DT) : 1 ≤ (fmtOf dt).p := by
  cases dt <;> decide

theorem fmtOf_emin (dt : DT) : (fmtOf dt).emin ≤ ((fmtOf dt).p : Int) - 1 := by
  cases dt <;> decide

theorem fmtOf_pe (dt : DT) : ((fmtOf dt).p : Int) ≤ (fmtOf dt).emax + 1 := by
  cases dt <;> decide

theorem fmtOf_emin_nonpos (dt : DT) : (fmtOf dt).emin ≤ 0 := by
  cases dt <;> decide

theorem abs_le_K {s : DfSpec} (hb : wfBasic s = true) {t : ℚ} (h1 : ((svLo s : Int) : ℚ) ≤ t)
    (h2 : t ≤ ((svHi s : Int) : ℚ)) : |t| ≤ ((2 ^ s.len : ℕ) : ℚ) := by
  obtain ⟨b1, b2, -, -, -⟩ := sv_bounds hb
  have c1 : ((-((2 : Int) ^ s.len) : Int) : ℚ) ≤ ((svLo s : Int) : ℚ) := Int.cast_le.mpr b1
  have c2 : ((svHi s : Int) : ℚ) ≤ (((2 : Int) ^ s.len : Int) : ℚ) := Int.cast_le.mpr b2
  push_cast at c1 c2 ⊢
  exact abs_le.mpr ⟨c1.trans h1, h2.trans c2⟩

theorem inRange_abs {s : DfSpec} {sv : Int} (hb : wfBasic s = true) (h : InRange s sv) :
    |(sv : ℚ)| ≤ ((2 ^ s.len : ℕ) : ℚ) :=
  abs_le_K hb (Int.cast_le.mpr h.1) (Int.cast_le.mpr h.2)

theorem inRange_natAbs {s : DfSpec} {sv : Int} (hb : wfBasic s = true) (h : InRange s sv) :
    sv.natAbs ≤ 2 ^ s.len := by
  have := inRange_abs hb h
  rw [← Int.cast_abs, ← Int.natCast_natAbs] at this
  exact_mod_cast this

theorem FltOK.sv_nonneg {s : DfSpec} {re : FExpr} {r b : ℚ} (ok : FltOK s re r b)
    (hbas : wfBasic s = true) {sv : Int} (hr : InRange s sv) (h : s.bias.isSome = true) :
    0 ≤ sv := by
  obtain ⟨be, hbe⟩ := Option.isSome_iff_exists.mp h
  exact inRange_u_nonneg hbas (ok.bias_some be hbe).2 hr

/-- the `±0.5` the encoder adds, as a datum -/
theorem half_val {q : F} {vq : ℚ} (hq : q.Val vq) :
    (if ge q zero then F.fin false (1 / 2) else F.fin true (1 / 2)).Val (qh vq) := by
  rw [F.Val.ge hq zero_val, qh]
  by_cases h0 : 0 ≤ vq
  · simp only [h0, decide_true, if_true]; exact ⟨false, 1 / 2, rfl, by norm_num, rfl⟩
  · simp only [h0, decide_false, if_false]; exact ⟨true, 1 / 2, rfl, by norm_num, rfl⟩

/-- `value /= res; value += ±0.5; value as it` on a finite datum of value `d` -/
theorem quantise_tail {fmt : Fmt} {X : F} {d r : ℚ} (hr : 0 < r) (hX : X.Val d)
    (h2 : NoOvf fmt (d / r)) (h3 : NoOvf fmt (rnd fmt (d / r) + qh (rnd fmt (d / r))))
    (lo hi : Int) :
    toIntSat (add fmt (div fmt X (.fin false r))
        (if ge (div fmt X (.fin false r)) zero then .fin false (1 / 2) else .fin true (1 / 2))) lo hi
      = clampI (truncRat (rnd fmt (rnd fmt (d / r) + qh (rnd fmt (d / r))))) lo hi := by
  have hq := F.Val.div hX (val_fin_false hr.le) hr.ne' h2
  rw [F.Val.toIntSat (F.Val.add hq (half_val hq) h3)]; rfl

theorem quantise_flt {s : DfSpec} {re : FExpr} {r b : ℚ} (hf : s.dt.isFloat = true)
    (ok : FltOK s re r b) (bits : Nat) {v : ℚ} (hv : (ofBits (fmtOf s.dt) bits).Val v)
    (hge : s.bias.isSome = true → b ≤ v)
    (h1 : s.bias.isSome = true → NoOvf (fmtOf s.dt) (v - b))
    (h2 : NoOvf (fmtOf s.dt) (qd (fmtOf s.dt) s.bias.isSome b v / r))
    (h3 : NoOvf (fmtOf s.dt) (qq (fmtOf s.dt) s.bias.isSome r b v
            + qh (qq (fmtOf s.dt) s.bias.isSome r b v))) :
    quantise s (.flt bits) = .ok (Bits.ofInt s.it.w
      (clampI (qk (fmtOf s.dt) s.bias.isSome r b v) (carrierRange s.it).1 (carrierRange s.it).2)) := by
  have hr := ok.numOK.r_pos
  rw [quantise_of_float hf]
  simp only [ok.res_eq, ok.round_eq, ok.res_val, if_true]
  rcases hb : s.bias with _ | be
  · simp only [hb, Option.isSome_none, qd, Bool.false_eq_true, if_false] at h2 h3 ⊢
    rw [Res.bind_ok, quantise_tail hr hv h2 h3]; rfl
  · have hbv : (F.fin false b).Val b := val_fin_false ok.numOK.b_nonneg
    simp only [hb, Option.isSome_some, qd, if_true, forall_const] at h1 h2 h3 hge ⊢
    rw [(ok.bias_some be hb).1, F.Val.ge hv hbv]
    simp only [hge, decide_true, if_true]
    rw [Res.bind_ok, quantise_tail hr (F.Val.sub hv hbv h1) h2 h3]; rfl

/-- any finite datum read from a bit pattern has a non-negative magnitude -/
theorem ofBits_val (fmt : Fmt) (bits : Nat) (h : (ofBits fmt bits).isFinite = true) :
    (ofBits fmt bits).Val (ofBits fmt bits).toRat := by
  unfold ofBits at h ⊢
  simp only at h ⊢
  split_ifs at h ⊢ with h1 h2 h3
  · simp [F.isFinite] at h
  · simp [F.isFinite] at h
  · exact ⟨_, _, rfl, mul_nonneg (by positivity) (pow2_pos _).le, rfl⟩
  · exact ⟨_, _, rfl, mul_nonneg (by positivity) (pow2_pos _).le, rfl⟩

theorem isNegZero_fin_of_pos (sg : Bool) {m : ℚ} (h : 0 < m) : (F.fin sg m).isNegZero = false := by
  cases sg
  · rfl
  · simp [F.isNegZero, h.ne']

theorem dequantise_flt (cfg : Cfg) {s : DfSpec} {re : FExpr} {r b : ℚ} (hf : s.dt.isFloat = true)
    (hbas : wfBasic s = true) (ok : FltOK s re r b) {sv : Int} (hin : InRange s sv) :
    ∃ X : F, dequantise cfg s sv = .ok (.flt (toBits (fmtOf s.dt) X)) ∧
      ofBits (fmtOf s.dt) (toBits (fmtOf s.dt) X) = X ∧
      X.Val (dx (fmtOf s.dt) s.bias.isSome r b sv) ∧ X.isNegZero = false ∧
      DeqErr (fmtOf s.dt) s.len r b s.bias.isSome sv := by
  have hg := good_fmtOf s.dt
  have hr := ok.numOK.r_pos
  have hsv : sv.natAbs < 2 ^ (fmtOf s.dt).p :=
    lt_of_le_of_lt (inRange_natAbs hbas hin) (Nat.pow_lt_pow_right (by norm_num) ok.len_lt)
  obtain ⟨h1, h2, he⟩ :=
    deq_chain ok.numOK s.bias.isSome ok.bias_none sv (inRange_abs hbas hin)
  have hn0 : (0 : ℚ) ≤ ((sv.natAbs : ℕ) : ℚ) := by positivity
  -- `value as dt * res`: exact conversion (`|sv| < 2^p`), then one rounding of `|sv|·r` with the
  -- sign of `sv`
  obtain ⟨h1', hmule⟩ := mul_ofInt (fmtOf s.dt) (fmtOf_emin s.dt) (fmtOf_pe s.dt) sv hsv hr h1
  have hmulv := F.Val.mul (ofInt_val (fmtOf s.dt) (fmtOf_emin s.dt) (fmtOf_pe s.dt) sv hsv)
    (val_fin_false hr.le) h1
  rw [dequantise_of_float hf]
  simp only [ok.res_eq, ok.res_val]
  rcases hb : s.bias with _ | be
  · -- no bias: the datum is that product, a rounded value; it is `-0` only if `sv < 0` rounds to
    -- zero, which `fl(res)` normal excludes
    rw [hb] at he
    refine ⟨_, rfl, ?_, ?_, ?_, he⟩
    · simp only
      rw [hmule]
      exact ofBits_toBits_rmv _ hg _ _ (mul_nonneg hn0 hr.le) h1'
    · simpa [dx, dy] using hmulv
    · simp only
      rw [hmule]
      by_cases hneg : (sv : ℚ) < 0
      · have hne : sv ≠ 0 := by rintro rfl; simp at hneg
        have h1n : (1 : ℚ) ≤ ((sv.natAbs : ℕ) : ℚ) := Nat.one_le_cast.mpr (Int.natAbs_pos.mpr hne)
        exact isNegZero_fin_of_pos _ (rmv_pos (fmtOf s.dt) (fmtOf_p_pos s.dt)
          (ok.numOK.r_norm.trans (le_mul_of_one_le_left hr.le h1n)))
      · rw [decide_eq_false hneg]; rfl
  · -- bias: the field is unsigned, so product and sum are `≥ 0` and the sum has sign `+`
    have hbe := (ok.bias_some be hb).1
    have hb0 := ok.numOK.b_nonneg
    have hbk : 0 ≤ sv := ok.sv_nonneg hbas hin (by rw [hb]; rfl)
    simp only [hb, Option.isSome_some] at h2 he ⊢
    have hk0 : (0 : ℚ) ≤ (sv : ℚ) * r := mul_nonneg (by exact_mod_cast hbk) hr.le
    have hdy0 : 0 ≤ dy (fmtOf s.dt) r sv := rnd_nonneg _ hk0
    have hs0 : 0 ≤ dy (fmtOf s.dt) r sv + b := add_nonneg hdy0 hb0
    have hadd := add_fin_false (fmtOf s.dt) hmulv hs0 h2
    rw [hbe]
    refine ⟨_, rfl, ?_, ?_, ?_, he⟩
    · rw [hadd]
      exact ofBits_toBits_rmv _ hg _ _ hs0 (h2.rmv_lt hs0)
    · rw [hadd]
      simp only [dx, if_true]
      rw [rnd_of_nonneg _ hs0]
      exact val_fin_false (rmv_nonneg _ hs0)
    · rw [hadd]; rfl

/-- the round trip of C08 for float fields, with the finiteness of the decoded datum -/
theorem flt_roundtrip (cfg : Cfg) (s : DfSpec) (sv : Int) (hf : s.dt.isFloat = true)
    (hw : DfWf.wf s = true) (hr : InRange s sv) :
    ∃ bits, dequantise cfg s sv = .ok (.flt bits) ∧
      quantise s (.flt bits) = .ok (Bits.ofInt s.it.w sv) ∧
      (ofBits (fmtOf s.dt) bits).isFinite = true ∧
      (ofBits (fmtOf s.dt) bits).isNegZero = false := by
  obtain ⟨hbas, re, ok⟩ := wf_flt hw hf
  generalize resVal s = r, biasVal s = b at ok
  have nok := ok.numOK
  obtain ⟨X, hdq, hrt, hXv, hnz, he⟩ := dequantise_flt cfg hf hbas ok hr
  obtain ⟨n3, n4, n5, hk⟩ := enc_chain nok s.bias.isSome ok.bias_none sv (inRange_abs hbas hr) he
  refine ⟨_, hdq, ?_, by rw [hrt]; exact hXv.isFinite, by rw [hrt]; exact hnz⟩
  have hge : s.bias.isSome = true → b ≤ dx (fmtOf s.dt) s.bias.isSome r b sv := by
    intro h
    have hk0 : (0 : ℚ) ≤ (sv : ℚ) * r :=
      mul_nonneg (by exact_mod_cast ok.sv_nonneg hbas hr h) nok.r_pos.le
    -- b is a float: b = rnd b ≤ rnd (dy + b)
    simp only [dx, h, if_true]
    have := rnd_mono (fmtOf s.dt) (fmtOf_p_pos s.dt)
      (le_add_of_nonneg_left (a := b) (rnd_nonneg (fmtOf s.dt) hk0))
    rwa [rnd_of_nonneg _ nok.b_nonneg, nok.b_rep] at this
  rw [quantise_flt hf ok _ (hrt.symm ▸ hXv) hge (fun _ => n3) n4 n5, hk, clampI_inRange hbas hr]

theorem value_roundtrip (cfg : Cfg) (s : DfSpec) (sv : Int) (hw : DfWf.wf s = true)
    (hr : InRange s sv) :
    ∃ t, dequantise cfg s sv = .ok t ∧ quantise s t = .ok (Bits.ofInt s.it.w sv) := by
  by_cases hf : s.dt.isFloat = true
  · obtain ⟨bits, h1, h2, -, -⟩ := flt_roundtrip cfg s sv hf hw hr
    exact ⟨_, h1, h2⟩
  · exact int_roundtrip cfg s sv (by simpa using hf) hw hr

theorem decode_encode (cfg : Cfg) (s : DfSpec) (c c' : Cur) (p o : Nat) (rest : List Tok)
    (hw : DfWf.wf s = true) (hp : Bits.parse cfg s.it c.data c.off s.len = .ok (p, o))
    (hr : InRange s (carrierVal s.it p)) :
    ∃ toks, Df.decode cfg s c = .ok (toks, { c with off := o }) ∧
      Df.encode cfg s (toks ++ rest) c' =
        putPat cfg s c' (Bits.ofInt s.it.w (carrierVal s.it p)) rest := by
  obtain ⟨t, ht, hq⟩ := value_roundtrip cfg s _ hw hr
  refine ⟨_, decode_tokens cfg s c p o t hp ht, ?_⟩
  rcases hi : s.inv with _ | inv
  · exact encode_ord cfg s t rest c' _ hi hq
  · simp only
    by_cases h : carrierVal s.it p = inv
    · simp only [h, if_true]
      exact encode_absent cfg s inv rest c' hi
    · simp only [h, if_false]
      exact encode_present cfg s inv t rest c' _ hi hq

end Rtcm.DfLaws
