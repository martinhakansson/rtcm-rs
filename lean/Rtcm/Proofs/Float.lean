import Rtcm.Model.SoftFloat
import Mathlib.Data.Rat.Floor
import Mathlib.Algebra.Order.Floor.Ring
import Mathlib.Algebra.Order.Field.Power
import Mathlib.Tactic.Linarith
import Mathlib.Tactic.NormNum
import Mathlib.Tactic.Positivity
import Mathlib.Tactic.Ring
/-!
`roundMag` takes the exponent `texp` of the unit in the last place from `ilog2 x`, rounds
`x / 2^texp` to the nearest integer (ties to even) and scales back. That value, `rmv fmt x` on
non-negative `x`, is within `M·2^-p` of `x` as soon as `x ≤ M` with `M` in the normal range, so one
magnitude bound gives error bound and no-overflow at once; `n·2^t` with `n < 2^p` and
`t ≥ emin - (p-1)` is a fixed point.
On finite data (`F.Val a v`) every operation of the model is `rnd` of the exact result, unless that
overflows (`NoOvf`).
-/
namespace Rtcm.SoftFloat

theorem pow2_eq (e : Int) : pow2 e = (2 : ℚ) ^ e := by
  unfold pow2
  split
  · next h =>
    obtain ⟨n, rfl⟩ := Int.eq_ofNat_of_zero_le h
    simp
  · next h =>
    obtain ⟨n, hn⟩ : ∃ n : Nat, e = -(n : Int) := ⟨(-e).toNat, by omega⟩
    subst hn
    simp [zpow_neg]

theorem pow2_pos (e : Int) : 0 < pow2 e := by rw [pow2_eq]; positivity

theorem pow2_ne (e : Int) : pow2 e ≠ 0 := (pow2_pos e).ne'

theorem pow2_add (a b : Int) : pow2 (a + b) = pow2 a * pow2 b := by
  simp only [pow2_eq]; exact zpow_add₀ (by norm_num) a b

theorem pow2_sub (a b : Int) : pow2 (a - b) = pow2 a / pow2 b := by
  simp only [pow2_eq]; exact zpow_sub₀ (by norm_num) a b

theorem pow2_zero : pow2 0 = 1 := by simp [pow2_eq]

theorem pow2_one : pow2 1 = 2 := by simp [pow2_eq]

theorem pow2_neg_one : pow2 (-1) = 1 / 2 := by simp [pow2_eq]

theorem pow2_natCast (n : Nat) : pow2 (n : Int) = (2 : ℚ) ^ n := by
  rw [pow2_eq, zpow_natCast]

theorem pow2_neg (a : Int) : pow2 (-a) = 1 / pow2 a := by
  simp only [pow2_eq, zpow_neg, one_div]

theorem pow2_lt_pow2_iff {a b : Int} : pow2 a < pow2 b ↔ a < b := by
  simp only [pow2_eq]; exact zpow_lt_zpow_iff_right₀ (by norm_num)

theorem pow2_le_pow2_iff {a b : Int} : pow2 a ≤ pow2 b ↔ a ≤ b := by
  simp only [pow2_eq]; exact zpow_le_zpow_iff_right₀ (by norm_num)

theorem pow2_succ (a : Int) : pow2 (a + 1) = 2 * pow2 a := by
  rw [pow2_add, pow2_one]; ring

private theorem rat_eq_toNat_div (x : ℚ) (hx : 0 < x) : (x.num.toNat : ℚ) / (x.den : ℚ) = x := by
  have hn : 0 < x.num := Rat.num_pos.mpr hx
  conv_rhs => rw [← Rat.num_div_den x]
  congr 1
  exact_mod_cast Int.toNat_of_nonneg hn.le

/-- the first guess `log2 n - log2 d` of `ilog2` for `⌊log2 (n/d)⌋` is off by at most one -/
private theorem log2_guess {n d : ℕ} (hn : n ≠ 0) (hd : d ≠ 0) :
    pow2 ((Nat.log2 n : Int) - (Nat.log2 d : Int) - 1) ≤ (n : ℚ) / d ∧
      (n : ℚ) / d < pow2 ((Nat.log2 n : Int) - (Nat.log2 d : Int) + 1) := by
  have n1 : (2 : ℚ) ^ Nat.log2 n ≤ n := by exact_mod_cast Nat.log2_self_le hn
  have n2 : (n : ℚ) < 2 ^ (Nat.log2 n + 1) := by exact_mod_cast Nat.lt_log2_self (n := n)
  have d1 : (2 : ℚ) ^ Nat.log2 d ≤ d := by exact_mod_cast Nat.log2_self_le hd
  have d2 : (d : ℚ) < 2 ^ (Nat.log2 d + 1) := by exact_mod_cast Nat.lt_log2_self (n := d)
  have hd0 : (0 : ℚ) < d := by exact_mod_cast Nat.pos_of_ne_zero hd
  rw [show ((Nat.log2 n : Int) - (Nat.log2 d : Int) - 1)
      = (Nat.log2 n : Int) - ((Nat.log2 d + 1 : ℕ) : Int) by push_cast; ring,
    show ((Nat.log2 n : Int) - (Nat.log2 d : Int) + 1)
      = ((Nat.log2 n + 1 : ℕ) : Int) - (Nat.log2 d : Int) by push_cast; ring,
    pow2_sub, pow2_sub, pow2_natCast, pow2_natCast, pow2_natCast, pow2_natCast]
  exact ⟨div_le_div₀ (Nat.cast_nonneg n) n1 hd0 d2.le,
    div_lt_div₀ n2 d1 (by positivity) (by positivity)⟩

theorem pow2_ilog2_le (x : ℚ) (hx : 0 < x) : pow2 (ilog2 x) ≤ x := by
  unfold ilog2
  simp only
  split
  · have := (log2_guess (n := x.num.toNat) (by have := Rat.num_pos.mpr hx; omega) x.den_nz).1
    rwa [rat_eq_toNat_div x hx] at this
  · next h => exact not_lt.mp h

theorem lt_pow2_ilog2_succ (x : ℚ) (hx : 0 < x) : x < pow2 (ilog2 x + 1) := by
  unfold ilog2
  simp only
  split
  · next h => simpa using h
  · have := (log2_guess (n := x.num.toNat) (by have := Rat.num_pos.mpr hx; omega) x.den_nz).2
    rwa [rat_eq_toNat_div x hx] at this

theorem ilog2_eq_of_bracket (x : ℚ) (e : Int) (h1 : pow2 e ≤ x) (h2 : x < pow2 (e + 1)) :
    ilog2 x = e := by
  have hx : 0 < x := lt_of_lt_of_le (pow2_pos e) h1
  have a1 := pow2_ilog2_le x hx
  have a2 := lt_pow2_ilog2_succ x hx
  have b1 : e < ilog2 x + 1 := pow2_lt_pow2_iff.mp (lt_of_le_of_lt h1 a2)
  have b2 : ilog2 x < e + 1 := pow2_lt_pow2_iff.mp (lt_of_le_of_lt a1 h2)
  omega

theorem rneInt_cases (q : ℚ) :
    (rneInt q = ⌊q⌋ ∧ q - ⌊q⌋ ≤ 1 / 2) ∨ (rneInt q = ⌊q⌋ + 1 ∧ 1 / 2 ≤ q - ⌊q⌋) := by
  unfold rneInt
  simp only
  split_ifs with h1 h2 h3
  · exact .inl ⟨rfl, h1.le⟩
  · exact .inr ⟨rfl, h2.le⟩
  · exact .inl ⟨rfl, not_lt.mp h2⟩
  · exact .inr ⟨rfl, not_lt.mp h1⟩

theorem rneInt_err (q : ℚ) : |(rneInt q : ℚ) - q| ≤ 1 / 2 := by
  have h1 := Int.floor_le q
  have h2 := Int.lt_floor_add_one q
  rw [abs_le]
  rcases rneInt_cases q with ⟨e, h⟩ | ⟨e, h⟩
  · rw [e]; constructor <;> linarith
  · rw [e]; push_cast; constructor <;> linarith

theorem rneInt_intCast (n : Int) : rneInt (n : ℚ) = n := by
  rcases rneInt_cases (n : ℚ) with ⟨e, -⟩ | ⟨-, h⟩
  · rw [e, Int.floor_intCast]
  · rw [Int.floor_intCast, sub_self] at h; norm_num at h

theorem rneInt_le_of_le_int {q : ℚ} {n : Int} (h : q ≤ n) : rneInt q ≤ n := by
  rcases rneInt_cases q with ⟨e, -⟩ | ⟨e, hf⟩ <;> rw [e]
  · exact Int.floor_le_iff.mpr (by linarith)
  · have : (⌊q⌋ : ℚ) < n := by linarith
    exact Int.add_one_le_of_lt (by exact_mod_cast this)

theorem rneInt_ge_of_ge_int {q : ℚ} {n : Int} (h : (n : ℚ) ≤ q) : n ≤ rneInt q := by
  have := Int.le_floor.mpr h
  rcases rneInt_cases q with ⟨e, -⟩ | ⟨e, -⟩ <;> omega

/-- exponent of the unit in the last place used by `roundMag` for `x` -/
def texp (fmt : Fmt) (x : ℚ) : Int := max (ilog2 x) fmt.emin - ((fmt.p : Int) - 1)

/-- the value `roundMag` computes before the overflow test -/
def rmv (fmt : Fmt) (x : ℚ) : ℚ := (rneInt (x / pow2 (texp fmt x)) : ℚ) * pow2 (texp fmt x)

/-- unit roundoff -/
def ur (fmt : Fmt) : ℚ := pow2 (-(fmt.p : Int))

/-- overflow threshold: the first power of two that is not a finite value -/
def omega (fmt : Fmt) : ℚ := pow2 (fmt.emax + 1)

theorem ur_pos (fmt : Fmt) : 0 < ur fmt := pow2_pos _
theorem omega_pos (fmt : Fmt) : 0 < omega fmt := pow2_pos _

/-- the integer significand chosen by `roundMag` -/
def signif (fmt : Fmt) (x : ℚ) : Int := rneInt (x / pow2 (texp fmt x))

theorem rmv_eq_signif (fmt : Fmt) (x : ℚ) : rmv fmt x = (signif fmt x : ℚ) * pow2 (texp fmt x) := rfl

theorem two_pow_mul_pow2 (n : ℕ) (t : Int) : (2 : ℚ) ^ n * pow2 t = pow2 (t + n) := by
  rw [pow2_add, pow2_natCast, mul_comm]

theorem signif_nonneg (fmt : Fmt) {x : ℚ} (hx : 0 ≤ x) : 0 ≤ signif fmt x :=
  rneInt_ge_of_ge_int (by exact_mod_cast div_nonneg hx (pow2_pos _).le)

/-- `2^p` itself is reached: a carry -/
theorem signif_le (fmt : Fmt) {x : ℚ} (hx : 0 < x) : signif fmt x ≤ 2 ^ fmt.p := by
  apply rneInt_le_of_le_int
  rw [div_le_iff₀ (pow2_pos _)]
  push_cast
  rw [two_pow_mul_pow2]
  exact (lt_pow2_ilog2_succ x hx).le.trans (pow2_le_pow2_iff.mpr (by unfold texp; omega))

theorem le_signif (fmt : Fmt) (hp : 1 ≤ fmt.p) {x : ℚ} (hx : 0 < x) (hn : fmt.emin ≤ ilog2 x) :
    2 ^ (fmt.p - 1) ≤ signif fmt x := by
  apply rneInt_ge_of_ge_int
  rw [le_div_iff₀ (pow2_pos _)]
  push_cast
  rw [two_pow_mul_pow2]
  exact (pow2_le_pow2_iff.mpr (by unfold texp; omega)).trans (pow2_ilog2_le x hx)

@[simp] theorem rmv_zero (fmt : Fmt) : rmv fmt 0 = 0 := by
  unfold rmv
  have : rneInt ((0 : ℚ) / pow2 (texp fmt 0)) = 0 := by
    rw [zero_div]; exact_mod_cast rneInt_intCast 0
  rw [this]; simp

theorem roundMag_eq (fmt : Fmt) (x : ℚ) :
    roundMag fmt x = if omega fmt ≤ rmv fmt x then none else some (rmv fmt x) := by
  unfold roundMag
  by_cases hx : x = 0
  · subst hx
    have : ¬ omega fmt ≤ 0 := not_le.mpr (omega_pos fmt)
    simp [this]
  · simp only [hx, if_false]
    rfl

theorem roundMag_of_lt (fmt : Fmt) (x : ℚ) (h : rmv fmt x < omega fmt) :
    roundMag fmt x = some (rmv fmt x) := by
  rw [roundMag_eq, if_neg (not_le.mpr h)]

theorem rmv_nonneg (fmt : Fmt) {x : ℚ} (hx : 0 ≤ x) : 0 ≤ rmv fmt x :=
  mul_nonneg (Int.cast_nonneg (signif_nonneg fmt hx)) (pow2_pos _).le

theorem rmv_abs_err (fmt : Fmt) (x : ℚ) : |rmv fmt x - x| ≤ pow2 (texp fmt x) / 2 := by
  have hpt := pow2_pos (texp fmt x)
  have e : rmv fmt x - x = ((signif fmt x : ℚ) - x / pow2 (texp fmt x)) * pow2 (texp fmt x) := by
    rw [sub_mul, div_mul_cancel₀ _ hpt.ne']; rfl
  rw [e, abs_mul, abs_of_pos hpt]
  exact (mul_le_mul_of_nonneg_right (rneInt_err _) hpt.le).trans_eq (by ring)

theorem rmv_err_le (fmt : Fmt) {x M : ℚ} (hx : 0 ≤ x) (hM : x ≤ M) (hn : pow2 fmt.emin ≤ M) :
    |rmv fmt x - x| ≤ M * ur fmt := by
  rcases hx.eq_or_lt with h0 | hpos
  · subst h0
    simp only [rmv_zero, sub_zero, abs_zero]
    exact mul_nonneg (le_trans (pow2_pos _).le hn) (ur_pos fmt).le
  · refine (rmv_abs_err fmt x).trans ?_
    have e : pow2 (texp fmt x) / 2 = pow2 (max (ilog2 x) fmt.emin) * ur fmt := by
      rw [ur, ← pow2_add, eq_comm, ← mul_div_cancel_left₀ (pow2 _) two_ne_zero, ← pow2_succ, texp]
      congr 2; ring
    rw [e]
    refine mul_le_mul_of_nonneg_right ?_ (ur_pos fmt).le
    rcases max_choice (ilog2 x) fmt.emin with h | h <;> rw [h]
    · exact (pow2_ilog2_le x hpos).trans hM
    · exact hn

theorem rmv_le_of_le (fmt : Fmt) {x M : ℚ} (hx : 0 ≤ x) (hM : x ≤ M) (hn : pow2 fmt.emin ≤ M) :
    rmv fmt x ≤ M * (1 + ur fmt) := by
  have := abs_le.mp (rmv_err_le fmt hx hM hn)
  linarith [this.2]

theorem rmv_exact (fmt : Fmt) (n : Nat) (t : Int) (hn : n < 2 ^ fmt.p)
    (ht : fmt.emin - ((fmt.p : Int) - 1) ≤ t) : rmv fmt ((n : ℚ) * pow2 t) = (n : ℚ) * pow2 t := by
  obtain ⟨x, hxdef⟩ : ∃ x, x = (n : ℚ) * pow2 t := ⟨_, rfl⟩
  rw [← hxdef]
  rcases Nat.eq_zero_or_pos n with h0 | hpos
  · subst h0; simp [hxdef]
  have hx : 0 < x := hxdef ▸ mul_pos (Nat.cast_pos.mpr hpos) (pow2_pos t)
  have hlt : x < pow2 (t + fmt.p) := by
    rw [hxdef, ← two_pow_mul_pow2]
    exact mul_lt_mul_of_pos_right (by exact_mod_cast hn) (pow2_pos t)
  have hil := pow2_lt_pow2_iff.mp ((pow2_ilog2_le x hx).trans_lt hlt)
  -- the unit in the last place of `x` is `2^tx` with `tx ≤ t`, so `x / 2^tx` is an integer
  obtain ⟨d, hd⟩ : ∃ d : Nat, t = texp fmt x + d := ⟨(t - texp fmt x).toNat, by unfold texp; omega⟩
  unfold rmv
  generalize texp fmt x = tx at hd
  have hq : x / pow2 tx = (((n * 2 ^ d : Nat) : Int) : ℚ) := by
    rw [hxdef, hd, ← two_pow_mul_pow2, ← mul_assoc, mul_div_cancel_right₀ _ (pow2_ne tx)]
    push_cast; rfl
  rw [hq, rneInt_intCast, ← hq, div_mul_cancel₀ _ (pow2_ne tx)]

theorem rmv_natCast (fmt : Fmt) (hemin : fmt.emin ≤ (fmt.p : Int) - 1) (n : Nat)
    (hn : n < 2 ^ fmt.p) : rmv fmt (n : ℚ) = n := by
  have := rmv_exact fmt n 0 hn (by omega)
  simpa [pow2_zero] using this

/-- `round` on rational values (sign symmetric) -/
def rnd (fmt : Fmt) (y : ℚ) : ℚ := if y < 0 then - rmv fmt (-y) else rmv fmt y

theorem rnd_of_nonneg (fmt : Fmt) {y : ℚ} (h : 0 ≤ y) : rnd fmt y = rmv fmt y := by
  unfold rnd; rw [if_neg (not_lt.mpr h)]

theorem rnd_neg_of_nonneg (fmt : Fmt) {y : ℚ} (h : 0 ≤ y) : rnd fmt (-y) = - rmv fmt y := by
  unfold rnd
  rcases h.eq_or_lt with h0 | hpos
  · subst h0; simp
  · rw [if_pos (by linarith), neg_neg]

theorem rnd_cases (fmt : Fmt) (y : ℚ) :
    (0 ≤ y ∧ rnd fmt y = rmv fmt y) ∨ (0 ≤ -y ∧ rnd fmt y = -rmv fmt (-y)) := by
  rcases le_total 0 y with h | h
  · exact .inl ⟨h, rnd_of_nonneg fmt h⟩
  · exact .inr ⟨neg_nonneg.mpr h, by rw [← rnd_neg_of_nonneg fmt (neg_nonneg.mpr h), neg_neg]⟩

theorem rnd_neg (fmt : Fmt) (y : ℚ) : rnd fmt (-y) = - rnd fmt y := by
  rcases rnd_cases fmt y with ⟨h, e⟩ | ⟨h, e⟩
  · rw [e, rnd_neg_of_nonneg fmt h]
  · rw [e, neg_neg, rnd_of_nonneg fmt h]

@[simp] theorem rnd_zero (fmt : Fmt) : rnd fmt 0 = 0 := by
  rw [rnd_of_nonneg fmt le_rfl, rmv_zero]

theorem rnd_nonneg (fmt : Fmt) {y : ℚ} (h : 0 ≤ y) : 0 ≤ rnd fmt y := by
  rw [rnd_of_nonneg fmt h]; exact rmv_nonneg fmt h

theorem rnd_nonpos (fmt : Fmt) {y : ℚ} (h : y ≤ 0) : rnd fmt y ≤ 0 := by
  have := rnd_nonneg fmt (neg_nonneg.mpr h)
  rwa [rnd_neg, neg_nonneg] at this

theorem abs_rnd (fmt : Fmt) (y : ℚ) : |rnd fmt y| = rmv fmt |y| := by
  rcases rnd_cases fmt y with ⟨h, e⟩ | ⟨h, e⟩
  · rw [e, abs_of_nonneg h, abs_of_nonneg (rmv_nonneg fmt h)]
  · rw [e, abs_neg, abs_of_nonneg (rmv_nonneg fmt h), abs_of_nonpos (neg_nonneg.mp h)]

theorem rnd_err_le (fmt : Fmt) {y M : ℚ} (hM : |y| ≤ M) (hn : pow2 fmt.emin ≤ M) :
    |rnd fmt y - y| ≤ M * ur fmt := by
  rcases rnd_cases fmt y with ⟨h, e⟩ | ⟨h, e⟩
  · rw [e]; exact rmv_err_le fmt h ((le_abs_self y).trans hM) hn
  · rw [e, ← abs_neg, show -(-rmv fmt (-y) - y) = rmv fmt (-y) - -y by ring]
    exact rmv_err_le fmt h ((neg_le_abs y).trans hM) hn

def NoOvf (fmt : Fmt) (y : ℚ) : Prop := rmv fmt |y| < omega fmt

theorem NoOvf.rmv_lt {fmt : Fmt} {y : ℚ} (h : NoOvf fmt y) (hy : 0 ≤ y) : rmv fmt y < omega fmt := by
  rwa [NoOvf, abs_of_nonneg hy] at h

theorem noOvf_of_le (fmt : Fmt) {y M : ℚ} (hM : |y| ≤ M) (hn : pow2 fmt.emin ≤ M)
    (hO : M * (1 + ur fmt) < omega fmt) : NoOvf fmt y :=
  lt_of_le_of_lt (rmv_le_of_le fmt (abs_nonneg y) hM hn) hO

theorem abs_rnd_le (fmt : Fmt) {y M : ℚ} (hM : |y| ≤ M) (hn : pow2 fmt.emin ≤ M) :
    |rnd fmt y| ≤ M * (1 + ur fmt) := by
  rw [abs_rnd]; exact rmv_le_of_le fmt (abs_nonneg y) hM hn

def F.Val (a : F) (v : ℚ) : Prop := ∃ s m, a = .fin s m ∧ 0 ≤ m ∧ v = if s then -m else m

theorem F.Val.toRat {a : F} {v : ℚ} (h : a.Val v) : a.toRat = v := by
  obtain ⟨s, m, rfl, _, rfl⟩ := h; rfl

theorem F.Val.isFinite {a : F} {v : ℚ} (h : a.Val v) : a.isFinite = true := by
  obtain ⟨s, m, rfl, _, rfl⟩ := h; rfl

theorem val_fin_false {m : ℚ} (h : 0 ≤ m) : (F.fin false m).Val m := ⟨false, m, rfl, h, rfl⟩

theorem round_eq (fmt : Fmt) (y : ℚ) (h : NoOvf fmt y) :
    round fmt y = .fin (decide (y < 0)) (rmv fmt |y|) := by
  unfold round
  have : (if y < 0 then -y else y) = |y| := by
    split_ifs with hy
    · rw [abs_of_neg hy]
    · rw [abs_of_nonneg (not_lt.mp hy)]
  simp only [this]
  rw [roundMag_of_lt fmt _ h]

private theorem signed_mul (s t : Bool) (x y : ℚ) :
    (if s then -x else x) * (if t then -y else y) = if (s != t) then -(x * y) else x * y := by
  cases s <;> cases t <;> simp

private theorem signed_div (s t : Bool) (x y : ℚ) :
    (if s then -x else x) / (if t then -y else y) = if (s != t) then -(x / y) else x / y := by
  cases s <;> cases t <;> simp [neg_div, div_neg]

private theorem val_roundMag (fmt : Fmt) (b : Bool) {z : ℚ} (hz : 0 ≤ z)
    (h : NoOvf fmt (if b then -z else z)) :
    roundMag fmt z = some (rmv fmt z) ∧
      (F.fin b (rmv fmt z)).Val (rnd fmt (if b then -z else z)) := by
  have habs : |if b then -z else z| = z := by cases b <;> simp [abs_of_nonneg hz]
  rw [NoOvf, habs] at h
  refine ⟨roundMag_of_lt fmt _ h, _, _, rfl, rmv_nonneg fmt hz, ?_⟩
  cases b
  · simpa using rnd_of_nonneg fmt hz
  · simpa using rnd_neg_of_nonneg fmt hz

private theorem signed_abs (y : ℚ) : (if decide (y < 0) then -|y| else |y|) = y := by
  by_cases hy : y < 0
  · simp [hy, abs_of_neg hy]
  · simp [hy, abs_of_nonneg (not_lt.mp hy)]

theorem round_val (fmt : Fmt) (y : ℚ) (h : NoOvf fmt y) : (round fmt y).Val (rnd fmt y) := by
  have hv := (val_roundMag fmt (decide (y < 0)) (abs_nonneg y) ((signed_abs y).symm ▸ h)).2
  rwa [signed_abs, ← round_eq fmt y h] at hv

theorem F.Val.mul {fmt : Fmt} {a b : F} {va vb : ℚ} (ha : a.Val va) (hb : b.Val vb)
    (h : NoOvf fmt (va * vb)) : (SoftFloat.mul fmt a b).Val (rnd fmt (va * vb)) := by
  obtain ⟨s, x, rfl, hx, rfl⟩ := ha
  obtain ⟨t, y, rfl, hy, rfl⟩ := hb
  rw [signed_mul] at h ⊢
  obtain ⟨e, hv⟩ := val_roundMag fmt _ (mul_nonneg hx hy) h
  unfold SoftFloat.mul
  simp only [e]
  exact hv

theorem F.Val.div {fmt : Fmt} {a b : F} {va vb : ℚ} (ha : a.Val va) (hb : b.Val vb)
    (hb0 : vb ≠ 0) (h : NoOvf fmt (va / vb)) :
    (SoftFloat.div fmt a b).Val (rnd fmt (va / vb)) := by
  obtain ⟨s, x, rfl, hx, rfl⟩ := ha
  obtain ⟨t, y, rfl, hy, rfl⟩ := hb
  have hy0 : y ≠ 0 := by
    intro h0; apply hb0; subst h0; cases t <;> simp
  rw [signed_div] at h ⊢
  obtain ⟨e, hv⟩ := val_roundMag fmt _ (div_nonneg hx hy) h
  unfold SoftFloat.div
  simp only [hy0, if_false, e]
  exact hv

theorem roundSum_val {fmt : Fmt} {A : ℚ} (h : NoOvf fmt A) (bz : Bool) :
    (roundSum fmt A bz).Val (rnd fmt A) := by
  unfold roundSum
  by_cases h0 : A = 0
  · rw [if_pos h0, h0]; exact ⟨_, 0, rfl, le_rfl, by simp⟩
  · rw [if_neg h0]; exact round_val fmt _ h

theorem F.Val.add {fmt : Fmt} {a b : F} {va vb : ℚ} (ha : a.Val va) (hb : b.Val vb)
    (h : NoOvf fmt (va + vb)) : (SoftFloat.add fmt a b).Val (rnd fmt (va + vb)) := by
  obtain ⟨s, x, rfl, hx, rfl⟩ := ha
  obtain ⟨t, y, rfl, hy, rfl⟩ := hb
  exact roundSum_val h _

theorem F.Val.neg {a : F} {va : ℚ} (ha : a.Val va) : (SoftFloat.neg a).Val (-va) := by
  obtain ⟨s, x, rfl, hx, rfl⟩ := ha
  refine ⟨!s, x, rfl, hx, ?_⟩
  cases s <;> simp

theorem F.Val.sub {fmt : Fmt} {a b : F} {va vb : ℚ} (ha : a.Val va) (hb : b.Val vb)
    (h : NoOvf fmt (va - vb)) : (SoftFloat.sub fmt a b).Val (rnd fmt (va - vb)) := by
  unfold SoftFloat.sub
  rw [sub_eq_add_neg] at h ⊢
  exact F.Val.add ha hb.neg h

theorem F.Val.ge {a b : F} {va vb : ℚ} (ha : a.Val va) (hb : b.Val vb) :
    SoftFloat.ge a b = decide (vb ≤ va) := by
  obtain ⟨s, x, rfl, hx, rfl⟩ := ha
  obtain ⟨t, y, rfl, hy, rfl⟩ := hb
  rfl

theorem F.Val.toIntSat {a : F} {va : ℚ} (ha : a.Val va) (lo hi : Int) :
    SoftFloat.toIntSat a lo hi =
      (if truncRat va < lo then lo else if hi < truncRat va then hi else truncRat va) := by
  obtain ⟨s, x, rfl, hx, rfl⟩ := ha
  rfl

/-- the IEEE interchange-format relations between the parameters -/
structure Fmt.Good (fmt : Fmt) : Prop where
  p_ge : 2 ≤ fmt.p
  ebits_ge : 2 ≤ fmt.ebits
  emax_eq : fmt.emax + 1 = ((2 ^ (fmt.ebits - 1) : Nat) : Int)
  emin_eq : fmt.emin = 1 - fmt.emax

theorem good_binary32 : binary32.Good := ⟨by decide, by decide, by decide, by decide⟩
theorem good_binary64 : binary64.Good := ⟨by decide, by decide, by decide, by decide⟩

theorem zero_val : zero.Val 0 := ⟨false, 0, rfl, le_rfl, by simp⟩

theorem roundSum_of_nonneg {fmt : Fmt} {A : ℚ} (h0 : 0 ≤ A) (h : NoOvf fmt A) :
    roundSum fmt A false = .fin false (rmv fmt A) := by
  unfold roundSum
  by_cases hA : A = 0
  · rw [if_pos hA, hA, rmv_zero]
  · rw [if_neg hA, round_eq fmt _ h, abs_of_nonneg h0, decide_eq_false (not_lt.mpr h0)]

theorem add_fin_false (fmt : Fmt) {a : F} {va y : ℚ} (ha : a.Val va) (hs : 0 ≤ va + y)
    (h : NoOvf fmt (va + y)) :
    SoftFloat.add fmt a (.fin false y) = .fin false (rmv fmt (va + y)) := by
  obtain ⟨s, x, rfl, hx, rfl⟩ := ha
  show roundSum fmt ((if s then -x else x) + y) (s && false && x == 0 && y == 0) = _
  rw [Bool.and_false, Bool.false_and, Bool.false_and]
  exact roundSum_of_nonneg hs h

theorem natAbs_cast_abs (z : Int) : ((z.natAbs : ℕ) : ℚ) = |(z : ℚ)| := by
  rw [Nat.cast_natAbs, Int.cast_abs]

theorem ofInt_eq (fmt : Fmt) (hemin : fmt.emin ≤ (fmt.p : Int) - 1)
    (hpe : (fmt.p : Int) ≤ fmt.emax + 1) (z : Int) (hz : z.natAbs < 2 ^ fmt.p) :
    ofInt fmt z = .fin (decide ((z : ℚ) < 0)) ((z.natAbs : ℕ) : ℚ) := by
  unfold ofInt
  have hex : rmv fmt |(z : ℚ)| = ((z.natAbs : ℕ) : ℚ) := by
    rw [← natAbs_cast_abs]; exact rmv_natCast fmt hemin _ hz
  have hno : NoOvf fmt (z : ℚ) := by
    rw [NoOvf, hex, omega]
    exact (show ((z.natAbs : ℕ) : ℚ) < 2 ^ fmt.p by exact_mod_cast hz).trans_le
      (pow2_natCast fmt.p ▸ pow2_le_pow2_iff.mpr hpe)
  rw [round_eq fmt _ hno, hex]

/-- `value as $dt * $res` of the `df!` decoder -/
theorem mul_ofInt (fmt : Fmt) (hemin : fmt.emin ≤ (fmt.p : Int) - 1)
    (hpe : (fmt.p : Int) ≤ fmt.emax + 1) (z : Int) (hz : z.natAbs < 2 ^ fmt.p) {r : ℚ} (hr : 0 < r)
    (h : NoOvf fmt ((z : ℚ) * r)) :
    rmv fmt (((z.natAbs : ℕ) : ℚ) * r) < omega fmt ∧
      SoftFloat.mul fmt (ofInt fmt z) (.fin false r) =
        .fin (decide ((z : ℚ) < 0)) (rmv fmt (((z.natAbs : ℕ) : ℚ) * r)) := by
  have h' : rmv fmt (((z.natAbs : ℕ) : ℚ) * r) < omega fmt := by
    rwa [NoOvf, abs_mul, abs_of_pos hr, ← natAbs_cast_abs] at h
  refine ⟨h', ?_⟩
  rw [ofInt_eq fmt hemin hpe z hz]
  unfold SoftFloat.mul
  simp only [roundMag_of_lt fmt _ h', Bool.bne_false]

theorem ofInt_val (fmt : Fmt) (hemin : fmt.emin ≤ (fmt.p : Int) - 1)
    (hpe : (fmt.p : Int) ≤ fmt.emax + 1) (z : Int) (hz : z.natAbs < 2 ^ fmt.p) :
    (ofInt fmt z).Val (z : ℚ) := by
  rw [ofInt_eq fmt hemin hpe z hz, natAbs_cast_abs]
  exact ⟨_, _, rfl, abs_nonneg _, (signed_abs _).symm⟩

theorem rmv_pos (fmt : Fmt) (hp : 1 ≤ fmt.p) {x : ℚ} (hn : pow2 fmt.emin ≤ x) : 0 < rmv fmt x := by
  have hx : 0 < x := lt_of_lt_of_le (pow2_pos _) hn
  have h := abs_le.mp (rmv_err_le fmt hx.le le_rfl hn)
  have hu : ur fmt ≤ 1 / 2 := by
    unfold ur
    rw [← pow2_neg_one]
    exact pow2_le_pow2_iff.mpr (by omega)
  linarith [h.1, mul_le_mul_of_nonneg_left hu hx.le]

theorem truncRat_of_nonneg {x : ℚ} (h : 0 ≤ x) : truncRat x = ⌊x⌋ := if_neg (not_lt.mpr h)

theorem truncRat_of_nonpos {x : ℚ} (h : x ≤ 0) : truncRat x = -⌊-x⌋ := by
  rcases h.eq_or_lt with rfl | h
  · rw [truncRat_of_nonneg le_rfl, neg_zero, Int.floor_zero, neg_zero]
  · exact if_pos h

end Rtcm.SoftFloat
