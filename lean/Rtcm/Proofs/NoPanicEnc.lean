import Rtcm.Proofs.WFSpec
import Rtcm.Proofs.MsmEncodeMasks
import Rtcm.Proofs.EncInvariants
import Rtcm.Proofs.Seq
/-!
`Bits.put` under `Widths` on a byte buffer answers `BufferOverflow` or succeeds for EVERY value
pattern: the panicking operations of the packer (`usize` subtractions, shift amounts) depend on the
geometry only. So an encoder step started on a byte buffer ends in an error, in a success that
extends the cursor (`Ext`), or in one of the model's `tokens…` panics (`EST`, `ESC`; `ES` is `EST`
written as a `match`).
-/
namespace Rtcm.NoPanic
open Rtcm.Bits Rtcm.Schema Rtcm.Text Rtcm.Interp Rtcm.WF

theorem put_total (cfg : Cfg) (it : IT) (data : List Nat) (off v len : Nat)
    (hdata : ∀ d ∈ data, d < 256) (hW : Widths it.w len := by decide) :
    (put cfg it data off v len = .err .bufferOverflow) ∨
    ∃ data', put cfg it data off v len = .ok (data', off + len) ∧ off + len ≤ 8 * data.length ∧
      data'.length = data.length ∧ (∀ d ∈ data', d < 256) ∧
      ∀ g, g < off → bitAt data' g = bitAt data g := by
  by_cases hov : data.length * 8 < off + len
  · exact Or.inl (Bits.put_overflow cfg it data off v len hov)
  · have hfit : off + len ≤ 8 * data.length := by omega
    obtain ⟨data', h, _⟩ := put_ok cfg it data off v len hW hfit
    exact Or.inr ⟨data', h, hfit, put_length h, put_bytes h hdata, (put_below h).2⟩

def Good (c : Cur) : Prop := ∀ d ∈ c.data, d < 256

/-- What an encoder step guarantees when nothing is known of where it starts. `CurLaws.Ext` says
more: there the new cursor is inside the buffer unconditionally and the bits behind it are kept as
well. `CodecLaw.ext_of_curExt` goes from that one to this one. -/
structure Ext (c c' : Cur) : Prop where
  good : Good c'
  len : c'.data.length = c.data.length
  mono : c.off ≤ c'.off
  fit : c.off ≤ 8 * c.data.length → c'.off ≤ 8 * c'.data.length
  keep : ∀ g, g < c.off → bitAt c'.data g = bitAt c.data g

theorem Ext.refl {c : Cur} (h : Good c) : Ext c c := ⟨h, rfl, Nat.le_refl _, id, fun _ _ => rfl⟩

theorem Ext.trans {a b c : Cur} (h1 : Ext a b) (h2 : Ext b c) : Ext a c :=
  ⟨h2.good, h2.len.trans h1.len, Nat.le_trans h1.mono h2.mono, fun h => h2.fit (h1.fit h),
   fun g hg => (h2.keep g (Nat.lt_of_lt_of_le hg h1.mono)).trans (h1.keep g hg)⟩

def ES (r : Res (Cur × List Tok)) (c : Cur) : Prop :=
  match r with
  | .ok (c', _) => Ext c c'
  | .err _ => True
  | .panic w => TokPanic w

abbrev ESC (r : Res Cur) (c : Cur) : Prop := r.Sat (Ext c) (fun _ => True) TokPanic

abbrev EST (r : Res (Cur × List Tok)) (c : Cur) : Prop :=
  r.Sat (fun (c', _) => Ext c c') (fun _ => True) TokPanic

theorem es_iff {r : Res (Cur × List Tok)} {c : Cur} : ES r c ↔ EST r c := by
  rcases r with ⟨c', ts⟩ | _ | _ <;> exact Iff.rfl

theorem Ext.step {α} {a b : Cur} {r : Res α} {Q : α → Cur} (h : Ext a b)
    (hr : r.Sat (fun x => Ext b (Q x)) (fun _ => True) TokPanic) :
    r.Sat (fun x => Ext a (Q x)) (fun _ => True) TokPanic :=
  hr.imp fun _ h' => h.trans h'

theorem put_es (cfg : Cfg) (it : IT) (c : Cur) (v len : Nat) (hW : Widths it.w len) (hc : Good c) :
    (put cfg it c.data c.off v len).Sat (fun (d, o) => Ext c { data := d, off := o }) (fun _ => True)
      TokPanic := by
  rcases put_total cfg it c.data c.off v len hc hW with h | ⟨d, h, hfit, hl, hg, hk⟩ <;> rw [h]
  · trivial
  · exact ⟨hg, hl, Nat.le_add_right _ _, fun _ => hl.symm ▸ hfit, hk⟩

theorem putU_es (cfg : Cfg) (w v len : Nat) (c : Cur) (hc : Good c) (hW : Widths w len := by decide) :
    ESC (putU cfg w v len c) c := by
  rw [putU_eq_bind]
  exact (put_es cfg ⟨.u, w⟩ c v len hW hc).bind fun _ h => h

theorem dfEncode_es (cfg : Cfg) (s : DfSpec) (ts : List Tok) (c : Cur) (hs : Widths s.it.w s.len) (hc : Good c) :
    EST (Df.encode cfg s ts c) c := by
  rw [Df.encode_eq]
  exact ((Df.pattern_sat s ts).imp fun _ _ => trivial).bind fun (p, _) _ =>
    (put_es cfg s.it c p s.len hs hc).bind fun _ h => h

theorem putBytes_es (cfg : Cfg) (bs : List Nat) (c : Cur) (hc : Good c) : ESC (putBytes cfg bs c) c := by
  induction bs generalizing c with
  | nil => exact Ext.refl hc
  | cons b bs ih =>
    rw [putBytes_cons]
    exact (putU_es cfg 8 b 8 c hc).bind fun c1 h =>
      h.step (ih c1 h.good)

theorem strEncode_es (cfg : Cfg) (lenBits : Nat) (bytes : List Nat) (c : Cur) (hW : Widths 8 lenBits)
    (hc : Good c) : ESC (strEncode cfg lenBits bytes c) c := by
  rw [strEncode_eq]
  exact (putU_es cfg 8 _ lenBits c hc hW).bind fun c1 h =>
    h.step (putBytes_es cfg bytes c1 h.good)

theorem text1029Encode_es (cfg : Cfg) (bytes : List Nat) (c : Cur) (hc : Good c) :
    ESC (text1029Encode cfg bytes c) c := by
  rw [text1029Encode_eq]
  exact .ite (fun _ => trivial) fun _ =>
    (putU_es cfg 8 _ 7 c hc).bind fun c1 h1 => h1.step <|
    (putU_es cfg 8 _ 8 c1 h1.good).bind fun c2 h2 => h2.step <|
    putBytes_es cfg bytes c2 h2.good

theorem putAll_es (cfg : Cfg) (is : List Layout.Item) (hw : ∀ i ∈ is, i.Wf) (c : Cur) (hc : Good c) :
    ESC (Layout.putAll cfg is c) c :=
  (Layout.putAll_sat (R := Ext) (G := Good) (fun _ => Ext.refl) Ext.trans is
    (fun it len v hm c hc => by
      rw [Layout.putF_eq_bind]
      exact (put_es cfg it c v len (hw _ hm) hc).bind fun _ h => ⟨h, h.good⟩)
    (fun _ _ => trivial) c hc).imp fun _ h => h.1

theorem biasEncode_es (cfg : Cfg) (p : Bias.Params) (hW : Widths 8 p.satBits)
    (v : List Bias.Entry) (c : Cur) (hc : Good c) : ESC (Bias.encode cfg p v c) c :=
  Bias.encode_putAll cfg p v ▸ putAll_es cfg _ (Bias.items_wf p hW.pos hW.le v) c hc

theorem encode1230_es (cfg : Cfg) (glo : SigTable) (v : List Bias.Entry) (c : Cur) (hc : Good c) :
    ESC (Bias.encode1230 cfg glo v c) c :=
  Bias.encode1230_putAll cfg glo v ▸ putAll_es cfg _ (Bias.items1230_wf glo v) c hc

theorem masks_spec (tbl : SigTable) (htbl : C18.tableOk tbl = true) (sats : List Msm.SatRow)
    (sigs : List Msm.SigRow) :
    (Msm.masks tbl sats sigs).Sat
      (fun m => ∀ a b c cellLen, m = some (a, b, c, cellLen) → 1 ≤ cellLen ∧ cellLen ≤ 64)
      (fun _ => True) TokPanic := by
  have hT := Sig.tableOk_of_bool tbl htbl
  rcases MsmLaws.masks_classify tbl hT sats sigs with ⟨_, _, h⟩ | ⟨P, h⟩ | ⟨_, _, e, _, h⟩ <;> rw [h]
  · exact fun _ _ _ _ => nofun
  · intro _ _ _ _ h
    cases h
    exact ⟨P.rowsOk.cellLen_pos hT, by rw [Nat.mul_comm]; exact P.cells_le⟩
  · trivial

theorem encColumn_es (cfg : Cfg) (s : DfSpec) (hs : Widths s.it.w s.len) (j : Nat) (rows : List (List (List Tok)))
    (c : Cur) (hc : Good c) : ESC (Msm.encColumn cfg s j rows c) c := by
  induction rows generalizing c with
  | nil => exact Ext.refl hc
  | cons row rows ih =>
    rw [Msm.encColumn_cons]
    exact (dfEncode_es cfg s _ c hs hc).bind fun (c1, _) e1 => e1.step (ih c1 e1.good)

theorem encColumns_es (cfg : Cfg) (rows : List (List (List Tok))) (j : Nat)
    (fs : List (String × DfSpec)) (hfs : WidthsAll fs) (c : Cur) (hc : Good c) :
    ESC (Msm.encColumns cfg rows j fs c) c := by
  induction fs generalizing c j with
  | nil => exact Ext.refl hc
  | cons f fs ih =>
    obtain ⟨name, s⟩ := f
    rw [Msm.encColumns_cons]
    exact (encColumn_es cfg s (hfs _ (List.mem_cons_self ..)) j rows c hc).bind fun c1 e1 =>
      e1.step (ih (j + 1) (fun p hp => hfs p (List.mem_cons_of_mem _ hp)) c1 e1.good)

theorem msmEncode_es (cfg : Cfg) (tbl : SigTable) (htbl : C18.tableOk tbl = true)
    (satFields sigFields : List (String × DfSpec)) (hsat : WidthsAll satFields)
    (hsig : WidthsAll sigFields) (sats : List Msm.SatRow) (sigs : List Msm.SigRow) (c : Cur)
    (hc : Good c) : ESC (Msm.encode cfg tbl satFields sigFields sats sigs c) c := by
  rw [Msm.encode_eq]
  refine (masks_spec tbl htbl sats sigs).bind fun m hl => ?_
  rcases m with _ | ⟨satMask, sigMask, cellMask, cellLen⟩
  · exact (putU_es cfg 64 0 64 c hc).bind fun c1 e1 =>
      e1.step (putU_es cfg 32 0 32 c1 e1.good)
  · obtain ⟨hl1, hl64⟩ := hl _ _ _ _ rfl
    exact (putU_es cfg 64 _ 64 c hc).bind fun c1 e1 => e1.step <|
      (putU_es cfg 32 _ 32 c1 e1.good).bind fun c2 e2 => e2.step <|
      (putU_es cfg 64 _ _ c2 e2.good ⟨by decide, by decide, hl1, hl64⟩).bind fun c3 e3 => e3.step <|
      (encColumns_es cfg _ 0 satFields hsat c3 e3.good).bind fun c4 e4 => e4.step <|
      encColumns_es cfg _ 0 sigFields hsig c4 e4.good

theorem encRepeat_es (f : Enc) (hf : ∀ ts c, Good c → EST (f ts c) c) (n : Nat) (ts : List Tok) (c : Cur)
    (hc : Good c) : EST (encRepeat f n ts c) c := by
  induction n generalizing ts c with
  | zero => exact Ext.refl hc
  | succ n ih =>
    rw [encRepeat_succ]
    exact (hf ts c hc).bind fun (c1, ts1) e1 => e1.step (ih ts1 c1 e1.good)

mutual
theorem encFrag_sat (cfg : Cfg) (glo : SigTable) :
    ∀ (f : Frag), WFFrag f = true → ∀ ts c, Good c → EST (encFrag cfg glo f ts c) c
  | .df s, hw, ts, c, hc => dfEncode_es cfg s ts c (widths_of_wf hw) hc
  | .str cap lenBits, hw, ts, c, hc =>
    encFrag_str_sat (fun _ h => h) cfg glo ts c cap lenBits fun _ =>
      strEncode_es cfg lenBits _ c (wfFrag_str.mp hw) hc
  | .text1029, _, ts, c, hc =>
    encFrag_text1029_sat (fun _ h => h) cfg glo ts c fun _ => text1029Encode_es cfg _ c hc
  | .bias1059 cap tbl, _, ts, c, hc =>
    encFrag_bias1059 cfg glo cap tbl ts c ▸ listE_sat (fun _ h => h) _ _ ts fun _ =>
      biasEncode_es cfg _ (widths_1059 cap tbl) _ c hc
  | .bias1065 cap tbl, _, ts, c, hc =>
    encFrag_bias1065 cfg glo cap tbl ts c ▸ listE_sat (fun _ h => h) _ _ ts fun _ =>
      biasEncode_es cfg _ (widths_1065 cap tbl) _ c hc
  | .bias1230, _, ts, c, hc =>
    encFrag_bias1230 cfg glo ts c ▸ listE_sat (fun _ h => h) _ _ ts fun _ => encode1230_es cfg glo _ c hc
  | .msm tbl sat sig, hw, ts, c, hc => by
    obtain ⟨htbl, hsat, hsig⟩ := wfFrag_msm.mp hw
    exact encFrag_msm_sat (fun _ h => h) cfg glo ts c tbl sat sig fun _ _ =>
      msmEncode_es cfg tbl htbl sat sig (widthsAll_of_wfSpecs hsat) (widthsAll_of_wfSpecs hsig) _ _ c hc
  | .seq fs, hw, ts, c, hc => encFields_sat cfg glo fs hw ts c hc
  | .grid16 e, hw, ts, c, hc => encRepeat_es _ (encFrag_sat cfg glo e hw) 16 ts c hc
  | .vecWithLen e cap lenBits, hw, ts, c, hc => by
    obtain ⟨hW, he⟩ := wfFrag_vecWithLen.mp hw
    rw [encFrag_vecWithLen]
    split
    · exact .ite (fun _ => tokPanic_cap) fun _ =>
        (put_es cfg ⟨.u, 16⟩ c _ lenBits hW hc).bind fun (d, o) e1 =>
          e1.step (encRepeat_es _ (encFrag_sat cfg glo e he) _ _ _ e1.good)
    · exact tokPanic_count
  | .lenMiddle f1 l f2 e cap, hw, ts, c, hc => by
    obtain ⟨h1, hl, h2, he⟩ := wfFrag_lenMiddle.mp hw
    rw [encFrag_lenMiddle]
    refine (encFields_sat cfg glo f1 h1 ts c hc).bind fun (c1, ts1) e1 => e1.step ?_
    dsimp only
    split
    · exact .ite (fun _ => tokPanic_cap) fun _ =>
        (dfEncode_es cfg l _ c1 (widths_of_wf (wf_of_wfCount hl)) e1.good).bind fun (c2, _) e2 => e2.step <|
        (encFields_sat cfg glo f2 h2 _ c2 e2.good).bind fun (c3, ts3) e3 => e3.step <|
        encRepeat_es _ (encFrag_sat cfg glo e he) _ ts3 c3 e3.good
    · exact tokPanic_count
theorem encFields_sat (cfg : Cfg) (glo : SigTable) :
    ∀ (fs : Fields), WFFields fs = true → ∀ ts c, Good c → EST (encFields cfg glo fs ts c) c
  | .nil, _, ts, c, hc => Ext.refl hc
  | .cons _ f rest, hw, ts, c, hc => by
    obtain ⟨hf, hr⟩ := wfFields_cons.mp hw
    rw [encFields_cons]
    exact (encFrag_sat cfg glo f hf ts c hc).bind fun (c1, ts1) e1 =>
      e1.step (encFields_sat cfg glo rest hr ts1 c1 e1.good)
end

theorem encFields_es (cfg : Cfg) (glo : SigTable) :
    ∀ (fs : Fields), WFFields fs = true → ∀ ts c, Good c → ES (encFields cfg glo fs ts c) c :=
  fun fs hw ts c hc => es_iff.mpr (encFields_sat cfg glo fs hw ts c hc)

end Rtcm.NoPanic
