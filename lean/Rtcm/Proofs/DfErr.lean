import Rtcm.Proofs.FloatMono
import Rtcm.Proofs.DfWf
/-!
With `k` a carrier reading, `r = fl(res)`, `b = fl(bias)`: decode computes `x = fl(fl(k·r) + b)`,
encode computes `d = fl(v - b)`, `q = fl(d / r)`, `w = fl(q ± 1/2)`, `trunc w`. `enc_tail` bounds the
distance of that integer from the exact grid coordinate for any `d`; the round trip (the value came
from decoding `k`: the integer is `k` again) and the bound for arbitrary input instantiate it with
the constants of `DfWf.num`.
-/
namespace Rtcm.DfLaws
open Rtcm.SoftFloat Rtcm.DfWf

/-- `value - bias` as computed by `encode` -/
def qd (fmt : Fmt) (hasBias : Bool) (b v : ℚ) : ℚ := if hasBias then rnd fmt (v - b) else v

/-- `… / res` -/
def qq (fmt : Fmt) (hasBias : Bool) (r b v : ℚ) : ℚ := rnd fmt (qd fmt hasBias b v / r)

/-- the `±0.5` of `round: true` -/
def qh (q : ℚ) : ℚ := if 0 ≤ q then 1 / 2 else -(1 / 2)

/-- `… + ±0.5` -/
def qw (fmt : Fmt) (hasBias : Bool) (r b v : ℚ) : ℚ :=
  rnd fmt (qq fmt hasBias r b v + qh (qq fmt hasBias r b v))

/-- the integer `encode` puts for the (finite) value `v` -/
def qk (fmt : Fmt) (hasBias : Bool) (r b v : ℚ) : Int := truncRat (qw fmt hasBias r b v)

/-- `value as dt * res` -/
def dy (fmt : Fmt) (r : ℚ) (k : Int) : ℚ := rnd fmt ((k : ℚ) * r)

/-- `… + bias` -/
def dx (fmt : Fmt) (hasBias : Bool) (r b : ℚ) (k : Int) : ℚ :=
  if hasBias then rnd fmt (dy fmt r k + b) else dy fmt r k

section
variable {fmt : Fmt} {len : Nat} {r b : ℚ}

theorem abs_qh (q : ℚ) : |qh q| = 1 / 2 := by
  unfold qh
  split_ifs
  · exact abs_of_pos one_half_pos
  · rw [abs_neg, abs_of_pos one_half_pos]

/-- truncation after adding the signed half rounds half away from zero (`fl(q + qh q)` has the
sign of `qh q`) -/
theorem abs_truncRat_sub_le (q : ℚ) :
    |(truncRat (rnd fmt (q + qh q)) : ℚ) - (rnd fmt (q + qh q) - qh q)| ≤ 1 / 2 := by
  unfold qh
  rw [abs_le]
  by_cases hq : 0 ≤ q
  · rw [if_pos hq, truncRat_of_nonneg (rnd_nonneg fmt (add_nonneg hq one_half_pos.le))]
    generalize rnd fmt (q + 1 / 2) = w
    constructor <;> linarith [Int.floor_le w, Int.lt_floor_add_one w]
  · rw [if_neg hq, truncRat_of_nonpos (rnd_nonpos fmt (by linarith))]
    generalize rnd fmt (q + -(1 / 2)) = w
    push_cast
    constructor <;> linarith [Int.floor_le (-w), Int.lt_floor_add_one (-w)]

theorem add_qh_mono {q q' : ℚ} (h : q ≤ q') : q + qh q ≤ q' + qh q' := by
  unfold qh
  split_ifs <;> linarith

theorem qk_mono (hp : 1 ≤ fmt.p) (hr : 0 < r) (hasBias : Bool) {v v' : ℚ} (h : v ≤ v') :
    qk fmt hasBias r b v ≤ qk fmt hasBias r b v' := by
  have hd : qd fmt hasBias b v ≤ qd fmt hasBias b v' := by
    cases hasBias
    · exact h
    · exact rnd_mono fmt hp (sub_le_sub_right h b)
  exact truncRat_mono (rnd_mono fmt hp (add_qh_mono
    (rnd_mono fmt hp (div_le_div_of_nonneg_right hd hr.le))))

def OkMag (fmt : Fmt) (M : ℚ) : Prop := pow2 fmt.emin ≤ M ∧ M * (1 + ur fmt) < omega fmt

theorem okMag_spec {fmt : Fmt} {M : ℚ} (h : okMag fmt M = true) : OkMag fmt M := by
  unfold okMag at h
  simp only [Bool.and_eq_true, decide_eq_true_eq] at h
  exact h

theorem OkMag.step {fmt : Fmt} {M y : ℚ} (ok : OkMag fmt M) (hy : |y| ≤ M) :
    NoOvf fmt y ∧ |rnd fmt y - y| ≤ M * ur fmt ∧ |rnd fmt y| ≤ M * (1 + ur fmt) :=
  ⟨noOvf_of_le fmt hy ok.1 ok.2, rnd_err_le fmt hy ok.1, abs_rnd_le fmt hy ok.1⟩

theorem OkMag.nonneg {fmt : Fmt} {M : ℚ} (ok : OkMag fmt M) : 0 ≤ M :=
  le_trans (pow2_pos _).le ok.1

/-- a rounding step that is only taken if `c` holds (otherwise `y'`, the same number, is kept) -/
theorem OkMag.step_if {M y y' : ℚ} {c : Bool} (ok : OkMag fmt M) (hy : |y| ≤ M)
    (hc : c = false → y' = y) :
    |(if c then rnd fmt y else y') - y| ≤ M * ur fmt ∧
      |if c then rnd fmt y else y'| ≤ M * (1 + ur fmt) := by
  cases c
  · simp only [hc rfl, Bool.false_eq_true, if_false, sub_self, abs_zero]
    have := mul_nonneg ok.nonneg (ur_pos fmt).le
    exact ⟨this, by linarith⟩
  · exact (ok.step hy).2

theorem qd_step {M v : ℚ} {hasBias : Bool} (ok : OkMag fmt M) (hb : hasBias = false → b = 0)
    (h : |v - b| ≤ M) :
    |qd fmt hasBias b v - (v - b)| ≤ M * ur fmt ∧ |qd fmt hasBias b v| ≤ M * (1 + ur fmt) :=
  ok.step_if h fun hc => by rw [hb hc, sub_zero]

/-- `wfNum` with its parts named: each rounding of the two bodies has a magnitude bound of
`DfWf.num` that lies in the normal range and cannot overflow (`OkMag`), and the accumulated error
leaves a margin below `1/2`. Only this and `wfNum_spec` know the order of the clauses of `wfNum`. -/
structure NumOK (fmt : Fmt) (len : Nat) (r b : ℚ) : Prop where
  r_pos : 0 < r
  b_nonneg : 0 ≤ b
  /-- `fl(res)` is normal: a non-zero reading does not decode to `±0` -/
  r_norm : pow2 fmt.emin ≤ r
  /-- `fl(bias)` is a value of the format: `b = fl(b) ≤ fl(y + b)`, so a decoded value passes the
  encoder's `value >= bias` -/
  b_rep : rmv fmt b = b
  ok1 : OkMag fmt (num fmt len r b).M1
  ok2 : OkMag fmt (num fmt len r b).M2
  ok3 : OkMag fmt (num fmt len r b).M3
  ok4 : OkMag fmt (num fmt len r b).M4
  ok5 : OkMag fmt (num fmt len r b).M5
  ok6 : OkMag fmt (num fmt len r b).M6
  /-- round trip: the integer is within `1/2 + (E + u·M5) < 1` of the reading, hence equal to it -/
  hE : (num fmt len r b).E + (num fmt len r b).u * (num fmt len r b).M5 < 1 / 2
  /-- arbitrary input: the integer is within `1/2 + (dq + u·M5) < 1` of the exact grid coordinate -/
  hdq : (num fmt len r b).dq + (num fmt len r b).u * (num fmt len r b).M5 < 1 / 2

theorem wfNum_spec {fmt : Fmt} {len : Nat} {r b : ℚ} (h : wfNum fmt len r b = true) :
    NumOK fmt len r b := by
  unfold wfNum at h
  simp only [Bool.and_eq_true, decide_eq_true_eq] at h
  obtain ⟨⟨⟨⟨⟨⟨⟨⟨⟨⟨⟨h1, h2⟩, h3⟩, hrep⟩, h4⟩, h5⟩, h6⟩, h7⟩, h8⟩, h9⟩, h10⟩, h11⟩ := h
  have hrep' : rmv fmt b = b := by
    rw [roundMag_eq] at hrep
    split_ifs at hrep with hc
    exact Option.some.inj hrep
  exact ⟨h1, h2, h3, hrep', okMag_spec h4, okMag_spec h5, okMag_spec h6, okMag_spec h7, okMag_spec h8,
    okMag_spec h9, h10, h11⟩

theorem num_u : (num fmt len r b).u = ur fmt := rfl

theorem num_M1 : (num fmt len r b).M1 = (num fmt len r b).K * r := rfl

theorem num_M2 : (num fmt len r b).M2 = (num fmt len r b).M1 * (1 + ur fmt) + b := rfl

theorem num_M3 : (num fmt len r b).M3 = (num fmt len r b).M2 * (1 + ur fmt) + b := rfl

theorem num_D : (num fmt len r b).D
    = ur fmt * ((num fmt len r b).M3 + (num fmt len r b).M2 + (num fmt len r b).M1) := rfl

theorem num_M5 : (num fmt len r b).M5 = (num fmt len r b).K + 1 := rfl

theorem num_M6 : (num fmt len r b).M6 = (num fmt len r b).M1 * (1 + ur fmt) / r := rfl

theorem num_dq : (num fmt len r b).dq
    = ur fmt * (num fmt len r b).M6 + ur fmt * (num fmt len r b).M1 / r := rfl

theorem abs_mul_le_M1 {t : ℚ} (hr : 0 < r) (ht : |t| ≤ (num fmt len r b).K) :
    |t * r| ≤ (num fmt len r b).M1 := by
  rw [num_M1, abs_mul, abs_of_pos hr]
  exact mul_le_mul_of_nonneg_right ht hr.le

theorem int_eq_of_abs_sub_lt_one {m n : Int} (h : |(m : ℚ) - n| < 1) : m = n := by
  have h' : |m - n| < 1 := by exact_mod_cast h
  have := Int.abs_lt_one_iff.mp h'
  omega

theorem floor_or_ceil_of_abs_lt_one {k : Int} {t : ℚ} (h : |(k : ℚ) - t| < 1) :
    k = ⌊t⌋ ∨ k = ⌈t⌉ := by
  obtain ⟨h1, h2⟩ := abs_lt.mp h
  rcases le_or_gt (k : ℚ) t with hk | hk
  · exact .inl (Int.floor_eq_iff.mpr ⟨hk, by linarith⟩).symm
  · exact .inr (Int.ceil_eq_iff.mpr ⟨by linarith, hk.le⟩).symm

/-- The encoder after the bias step, for a datum `d` within `A` of `t·r` and of magnitude at most
`B`; `ε` collects the error of `d` and of the two roundings. -/
theorem enc_tail {d t A B K ε : ℚ} (hr : 0 < r) (hd : |d - t * r| ≤ A) (hB : |d| ≤ B)
    (okB : OkMag fmt (B / r)) (hK : |t| ≤ K) (okK : OkMag fmt (K + 1))
    (hε : A / r + ur fmt * (B / r) + ur fmt * (K + 1) ≤ ε) (hε' : ε < 1 / 2) :
    NoOvf fmt (d / r) ∧ NoOvf fmt (rnd fmt (d / r) + qh (rnd fmt (d / r))) ∧
      |(truncRat (rnd fmt (rnd fmt (d / r) + qh (rnd fmt (d / r)))) : ℚ) - t| ≤ 1 / 2 + ε := by
  have hs : |d / r| ≤ B / r := by
    rw [abs_div, abs_of_pos hr]; exact div_le_div_of_nonneg_right hB hr.le
  obtain ⟨no, e, -⟩ := okB.step hs
  have hdt : |d / r - t| ≤ A / r := by
    rw [show d / r - t = (d - t * r) / r by rw [sub_div, mul_div_cancel_right₀ _ hr.ne'],
      abs_div, abs_of_pos hr]
    exact div_le_div_of_nonneg_right hd hr.le
  generalize rnd fmt (d / r) = q at e ⊢
  have hqt : |q - t| ≤ B / r * ur fmt + A / r := (abs_sub_le q (d / r) t).trans (add_le_add e hdt)
  have huK := mul_nonneg (ur_pos fmt).le okK.nonneg
  have hs5 : |q + qh q| ≤ K + 1 :=
    (abs_add_le _ _).trans (by rw [abs_qh]; linarith [abs_sub_abs_le_abs_sub q t])
  obtain ⟨no5, e5, -⟩ := okK.step hs5
  refine ⟨no, no5, ?_⟩
  have hw := abs_truncRat_sub_le (fmt := fmt) q
  generalize rnd fmt (q + qh q) = w at e5 hw ⊢
  rw [show (truncRat w : ℚ) - t = (truncRat w - (w - qh q)) + (w - (q + qh q)) + (q - t) by ring]
  exact (abs_add_three _ _ _).trans (by linarith)

/-- the errors of the two decode roundings for the reading `k`, as `enc_chain` and `recon_err`
take them -/
structure DeqErr (fmt : Fmt) (len : Nat) (r b : ℚ) (hasBias : Bool) (k : Int) : Prop where
  prod : |dy fmt r k - k * r| ≤ (num fmt len r b).M1 * ur fmt
  sum : |dx fmt hasBias r b k - (dy fmt r k + b)| ≤ (num fmt len r b).M2 * ur fmt
  mag : |dx fmt hasBias r b k| ≤ (num fmt len r b).M2 * (1 + ur fmt)

theorem deq_chain (ok : NumOK fmt len r b) (hasBias : Bool) (hb : hasBias = false → b = 0)
    (k : Int) (hk : |(k : ℚ)| ≤ (num fmt len r b).K) :
    NoOvf fmt ((k : ℚ) * r) ∧ NoOvf fmt (dy fmt r k + b) ∧ DeqErr fmt len r b hasBias k := by
  obtain ⟨no1, e1, a1⟩ := ok.ok1.step (abs_mul_le_M1 ok.r_pos hk)
  have hs2 : |dy fmt r k + b| ≤ (num fmt len r b).M2 :=
    (abs_add_le _ _).trans (by rw [num_M2, abs_of_nonneg ok.b_nonneg]; exact add_le_add_left a1 _)
  obtain ⟨e2, a2⟩ := ok.ok2.step_if hs2 fun hc => by rw [hb hc, add_zero]
  exact ⟨no1, (ok.ok2.step hs2).1, e1, e2, a2⟩

theorem enc_chain (ok : NumOK fmt len r b) (hasBias : Bool) (hb : hasBias = false → b = 0)
    (k : Int) (hk : |(k : ℚ)| ≤ (num fmt len r b).K) (he : DeqErr fmt len r b hasBias k) :
    NoOvf fmt (dx fmt hasBias r b k - b) ∧ NoOvf fmt (qd fmt hasBias b (dx fmt hasBias r b k) / r) ∧
    NoOvf fmt (qq fmt hasBias r b (dx fmt hasBias r b k)
      + qh (qq fmt hasBias r b (dx fmt hasBias r b k))) ∧
    qk fmt hasBias r b (dx fmt hasBias r b k) = k := by
  obtain ⟨h1, h2, h3⟩ := he
  generalize dx fmt hasBias r b k = x, dy fmt r k = y1 at h1 h2 h3 ⊢
  have hr := ok.r_pos
  have hs3 : |x - b| ≤ (num fmt len r b).M3 :=
    (abs_sub _ _).trans (by rw [num_M3, abs_of_nonneg ok.b_nonneg]; linarith)
  obtain ⟨e3, -⟩ := qd_step ok.ok3 hb hs3
  -- the errors of the three roundings so far add up to `D`
  have hD : |qd fmt hasBias b x - k * r| ≤ (num fmt len r b).D := by
    rw [show qd fmt hasBias b x - k * r
      = (qd fmt hasBias b x - (x - b)) + (x - (y1 + b)) + (y1 - k * r) by ring, num_D]
    exact (abs_add_three _ _ _).trans (by linarith)
  have hdm : |qd fmt hasBias b x| ≤ (num fmt len r b).M1 + (num fmt len r b).D := by
    linarith [abs_sub_abs_le_abs_sub (qd fmt hasBias b x) (k * r), abs_mul_le_M1 hr hk]
  have hE : (num fmt len r b).D / r + ur fmt * (((num fmt len r b).M1 + (num fmt len r b).D) / r)
      + ur fmt * ((num fmt len r b).K + 1) < 1 / 2 := ok.hE
  obtain ⟨no4, no5, hkk⟩ := enc_tail hr hD hdm ok.ok4 hk ok.ok5 le_rfl hE
  exact ⟨(ok.ok3.step hs3).1, no4, no5, int_eq_of_abs_sub_lt_one (hkk.trans_lt (by linarith))⟩

theorem quant_chain (ok : NumOK fmt len r b) (hasBias : Bool) (hb : hasBias = false → b = 0)
    (v t : ℚ) (ht : v - b = t * r) (hK : |t| ≤ (num fmt len r b).K) :
    NoOvf fmt (v - b) ∧ NoOvf fmt (qd fmt hasBias b v / r) ∧
    NoOvf fmt (qq fmt hasBias r b v + qh (qq fmt hasBias r b v)) ∧
    |(qk fmt hasBias r b v : ℚ) - t| ≤ 1 / 2 + deltaNum (num fmt len r b) := by
  have hs1 : |v - b| ≤ (num fmt len r b).M1 := ht ▸ abs_mul_le_M1 ok.r_pos hK
  obtain ⟨e1, a1⟩ := qd_step ok.ok1 hb hs1
  rw [ht] at e1
  have hδ : (num fmt len r b).M1 * ur fmt / r + ur fmt * ((num fmt len r b).M1 * (1 + ur fmt) / r)
      + ur fmt * ((num fmt len r b).K + 1) = deltaNum (num fmt len r b) := by
    rw [deltaNum, num_dq, num_M6, num_u, num_M5]; ring
  exact ⟨(ok.ok1.step hs1).1, enc_tail ok.r_pos e1 a1 ok.ok6 hK ok.ok5 hδ.le ok.hdq⟩

/-- C11's error bound on rationals: `X` is the decoded value of the integer `k`, `Y` its
intermediate product, `v` the input with grid coordinate `t` -/
theorem recon_err {v t k X Y ε₁ ε₂ δ : ℚ} (hr : 0 < r) (ht : v - b = t * r)
    (hk : |k - t| ≤ 1 / 2 + δ) (e1 : |Y - k * r| ≤ ε₁) (e2 : |X - (Y + b)| ≤ ε₂) :
    |X - v| ≤ r / 2 + (δ * r + (ε₂ + ε₁)) := by
  obtain rfl : v = t * r + b := eq_add_of_sub_eq ht
  rw [show X - (t * r + b) = (X - (Y + b)) + (Y - k * r) + (k - t) * r by ring]
  refine (abs_add_three _ _ _).trans ?_
  rw [abs_mul, abs_of_pos hr]
  linarith [mul_le_mul_of_nonneg_right hk hr.le]

end

end Rtcm.DfLaws
