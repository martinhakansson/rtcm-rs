import Rtcm.Proofs.DecEqns
import Rtcm.Proofs.EncEqns
import Rtcm.Proofs.BitPrim
/-!
`decFields`, `decRepeat` (and `encFields`, `encRepeat`) iterate one step: run the first codec, then
the second where the first stopped (`Dec.seq` concatenates the tokens, `Enc.seq` threads them).  The
interpreter's recursive equations are stated as equalities of functions, so a property closed under
`seq` passes to field lists and repetitions by rewriting.
-/
namespace Rtcm.Interp
open Rtcm.Schema Rtcm.Bits

def Enc.seq (E1 E2 : Enc) : Enc := fun ts c => E1 ts c >>= fun (c', ts') => E2 ts' c'

def Dec.seq (D1 D2 : Dec) : Dec := fun c =>
  D1 c >>= fun (t, c') => D2 c' >>= fun (ts, c'') => .ok (t ++ ts, c'')

def Enc.nil : Enc := fun ts c => .ok (c, ts)
def Dec.nil : Dec := fun c => .ok ([], c)

section
-- with smart unfolding off the defeq check unfolds the model's matchers (see `DecEqns`)
set_option smartUnfolding false

theorem encFields_nil (cfg : Cfg) (glo : SigTable) : encFields cfg glo .nil = Enc.nil := rfl
theorem decFields_nil (cfg : Cfg) : decFields cfg .nil = Dec.nil := rfl
theorem encFields_cons_seq (cfg : Cfg) (glo : SigTable) (nm : String) (f : Frag) (rest : Fields) :
    encFields cfg glo (.cons nm f rest) = Enc.seq (encFrag cfg glo f) (encFields cfg glo rest) := rfl
theorem decFields_cons_seq (cfg : Cfg) (nm : String) (f : Frag) (rest : Fields) :
    decFields cfg (.cons nm f rest) = Dec.seq (decFrag cfg f) (decFields cfg rest) := rfl
theorem encRepeat_succ_seq (E : Enc) (n : Nat) : encRepeat E (n + 1) = Enc.seq E (encRepeat E n) := rfl
theorem decRepeat_succ_seq (D : Dec) (n : Nat) : decRepeat D (n + 1) = Dec.seq D (decRepeat D n) := rfl
theorem encFrag_seq (cfg : Cfg) (glo : SigTable) (fs : Fields) :
    encFrag cfg glo (.seq fs) = encFields cfg glo fs := rfl
theorem decFrag_seq (cfg : Cfg) (fs : Fields) : decFrag cfg (.seq fs) = decFields cfg fs := rfl
theorem encFrag_grid16 (cfg : Cfg) (glo : SigTable) (e : Frag) :
    encFrag cfg glo (.grid16 e) = encRepeat (encFrag cfg glo e) 16 := rfl
theorem decFrag_grid16 (cfg : Cfg) (e : Frag) : decFrag cfg (.grid16 e) = decRepeat (decFrag cfg e) 16 := rfl
theorem encFrag_df (cfg : Cfg) (glo : SigTable) (s : DfSpec) : encFrag cfg glo (.df s) = Df.encode cfg s := rfl
theorem decFrag_df (cfg : Cfg) (s : DfSpec) : decFrag cfg (.df s) = Df.decode cfg s := rfl

end

theorem Enc.seq_nil (E : Enc) : Enc.seq E Enc.nil = E := by
  funext ts c
  unfold Enc.seq Enc.nil
  cases E ts c <;> rfl

theorem Dec.seq_nil (D : Dec) : Dec.seq D Dec.nil = D := by
  funext c
  unfold Dec.seq Dec.nil
  cases D c with
  | ok r => exact congrArg (fun t => Res.ok (t, r.2)) (List.append_nil r.1)
  | err e => rfl
  | panic w => rfl

theorem Enc.seq_ok {E1 E2 : Enc} {ts rest : List Tok} {c c2 : Cur} :
    Enc.seq E1 E2 ts c = .ok (c2, rest) ↔ ∃ c1 ts1, E1 ts c = .ok (c1, ts1) ∧ E2 ts1 c1 = .ok (c2, rest) :=
  ⟨fun h => let ⟨(c1, ts1), e1, e2⟩ := Res.bind_eq_ok h; ⟨c1, ts1, e1, e2⟩,
    fun ⟨c1, ts1, e1, e2⟩ => by unfold Enc.seq; rw [e1]; exact e2⟩

theorem Dec.seq_ok {D1 D2 : Dec} {t : List Tok} {c c2 : Cur} :
    Dec.seq D1 D2 c = .ok (t, c2) ↔
      ∃ t1 c1 t2, D1 c = .ok (t1, c1) ∧ D2 c1 = .ok (t2, c2) ∧ t = t1 ++ t2 := by
  constructor
  · intro h
    obtain ⟨⟨t1, c1⟩, e1, h⟩ := Res.bind_eq_ok h
    obtain ⟨⟨t2, c2'⟩, e2, h⟩ := Res.bind_eq_ok h
    cases h
    exact ⟨t1, c1, t2, e1, e2, rfl⟩
  · rintro ⟨t1, c1, t2, e1, e2, rfl⟩
    simp only [Dec.seq, e1, e2, Res.bind_ok]

theorem Dec.seq_post {Q : List Tok → Prop} (happ : ∀ a b, Q a → Q b → Q (a ++ b)) {D1 D2 : Dec}
    (h1 : ∀ c t c', D1 c = .ok (t, c') → Q t) (h2 : ∀ c t c', D2 c = .ok (t, c') → Q t) :
    ∀ c t c', Dec.seq D1 D2 c = .ok (t, c') → Q t := by
  intro c t c' h
  obtain ⟨t1, c1, t2, e1, e2, rfl⟩ := Dec.seq_ok.mp h
  exact happ _ _ (h1 _ _ _ e1) (h2 _ _ _ e2)

theorem decRepeat_post {Q : List Tok → Prop} (hnil : Q []) (happ : ∀ a b, Q a → Q b → Q (a ++ b)) {D : Dec}
    (h : ∀ c t c', D c = .ok (t, c') → Q t) : ∀ n c t c', decRepeat D n c = .ok (t, c') → Q t
  | 0 => fun c t c' e => by cases e; exact hnil
  | n + 1 => decRepeat_succ_seq D n ▸ Dec.seq_post happ h (decRepeat_post hnil happ h n)

/-- the shape of the string, text and bias leaves of `decFrag` -/
theorem bind_map_ok {α β : Type} {r : Res (α × Cur)} (g : α → β) {t : β} {c' : Cur} :
    (r >>= fun (a, c1) => .ok (g a, c1)) = .ok (t, c') ↔ ∃ a, r = .ok (a, c') ∧ t = g a := by
  constructor
  · intro h
    obtain ⟨⟨a, c1⟩, e, h⟩ := Res.bind_eq_ok h
    cases h
    exact ⟨a, e, rfl⟩
  · rintro ⟨a, rfl, rfl⟩
    rfl

/-- for the two leaves that take one `bytes` token (Latin-1 string, 1029 text) -/
theorem ok_of_bytes_cases {E : Res (Cur × List Tok)} {ts : List Tok} {P : List Nat → Prop}
    {enc : List Nat → Res Cur}
    (hc : (∃ w, NoPanic.TokPanic w ∧ E = .panic w) ∨
      ∃ b rest0, ts = .bytes b :: rest0 ∧ P b ∧ E = enc b >>= fun c' => .ok (c', rest0))
    {c' : Cur} {rest : List Tok} (h : E = .ok (c', rest)) :
    ∃ b, ts = .bytes b :: rest ∧ P b ∧ enc b = .ok c' := by
  rcases hc with ⟨w, -, e⟩ | ⟨b, rest0, rfl, hp, e⟩
  · cases e.symm.trans h
  · obtain ⟨c2, e', h⟩ := Res.bind_eq_ok (e ▸ h)
    cases h
    exact ⟨b, rfl, hp, e'⟩

theorem encFrag_str_ok {cfg : Cfg} {glo : SigTable} {cap lb : Nat} {ts rest : List Tok} {c c' : Cur} :
    encFrag cfg glo (.str cap lb) ts c = .ok (c', rest) ↔
      ∃ b, ts = .bytes b :: rest ∧ ¬ b.length > cap ∧ Text.strEncode cfg lb (b.map Text.pushNorm) c = .ok c' := by
  refine ⟨ok_of_bytes_cases (encFrag_str_cases cfg glo cap lb ts c), ?_⟩
  rintro ⟨b, rfl, hc, e⟩
  rw [encFrag, if_neg hc, e]
  rfl

theorem encFrag_text_ok {cfg : Cfg} {glo : SigTable} {ts rest : List Tok} {c c' : Cur} :
    encFrag cfg glo .text1029 ts c = .ok (c', rest) ↔
      ∃ b, ts = .bytes b :: rest ∧ ¬ (b.length > 255 ∨ !Text.validUtf8 b) ∧ Text.text1029Encode cfg b c = .ok c' := by
  refine ⟨ok_of_bytes_cases (encFrag_text1029_cases cfg glo ts c), ?_⟩
  rintro ⟨b, rfl, hc, e⟩
  rw [encFrag, if_neg hc, e]
  rfl

theorem decFrag_vec_ok {cfg : Cfg} {e : Frag} {cap lb : Nat} {c c' : Cur} {t : List Tok} :
    decFrag cfg (.vecWithLen e cap lb) c = .ok (t, c') ↔
      ∃ n o te, parse cfg ⟨.u, 16⟩ c.data c.off lb = .ok (n, o) ∧ ¬ n > cap ∧
        decRepeat (decFrag cfg e) n { c with off := o } = .ok (te, c') ∧ t = .count n :: te := by
  rw [decFrag_vecWithLen]
  constructor
  · intro h
    obtain ⟨⟨n, o⟩, hp, h⟩ := Res.bind_eq_ok h
    dsimp only at h
    split at h
    · cases h
    · next hc =>
      obtain ⟨⟨te, c2⟩, hr, h⟩ := Res.bind_eq_ok h
      cases h
      exact ⟨n, o, te, hp, hc, hr, rfl⟩
  · rintro ⟨n, o, te, hp, hc, hr, rfl⟩
    simp only [hp, if_neg hc, hr, Res.bind_ok]

theorem decFrag_lenMiddle_ok {cfg : Cfg} {f1 f2 : Fields} {l : DfSpec} {e : Frag} {cap : Nat} {c c' : Cur}
    {t : List Tok} :
    decFrag cfg (.lenMiddle f1 l f2 e cap) c = .ok (t, c') ↔
      ∃ t1 c1 n c2 t2 c3 te, decFields cfg f1 c = .ok (t1, c1) ∧ Df.decode cfg l c1 = .ok ([.int n], c2) ∧
        decFields cfg f2 c2 = .ok (t2, c3) ∧ ¬ n.toNat > cap ∧
        decRepeat (decFrag cfg e) n.toNat c3 = .ok (te, c') ∧ t = t1 ++ [.count n.toNat] ++ t2 ++ te := by
  rw [decFrag_lenMiddle]
  constructor
  · intro h
    obtain ⟨⟨t1, c1⟩, h1, h⟩ := Res.bind_eq_ok h
    obtain ⟨⟨tn, c2⟩, hn, h⟩ := Res.bind_eq_ok h
    dsimp only at h
    split at h
    · next n =>
      obtain ⟨⟨t2, c3⟩, h2, h⟩ := Res.bind_eq_ok h
      dsimp only at h
      split at h
      · cases h
      · next hc =>
        obtain ⟨⟨te, c4⟩, hr, h⟩ := Res.bind_eq_ok h
        cases h
        exact ⟨t1, c1, n, c2, t2, c3, te, h1, hn, h2, hc, hr, rfl⟩
    · cases h
  · rintro ⟨t1, c1, n, c2, t2, c3, te, h1, hn, h2, hc, hr, rfl⟩
    rw [h1]
    show (Df.decode cfg l c1 >>= _) = _
    rw [hn]
    show (decFields cfg f2 c2 >>= _) = _
    rw [h2]
    show (if n.toNat > cap then _ else _) = _
    rw [if_neg hc, hr]
    rfl

theorem encFrag_vec_ok {cfg : Cfg} {glo : SigTable} {e : Frag} {cap lb : Nat} {ts rest : List Tok} {c c' : Cur} :
    encFrag cfg glo (.vecWithLen e cap lb) ts c = .ok (c', rest) ↔
      ∃ n ts1 d o, ts = .count n :: ts1 ∧ ¬ n > cap ∧
        put cfg ⟨.u, 16⟩ c.data c.off (n % 65536) lb = .ok (d, o) ∧
        encRepeat (encFrag cfg glo e) n ts1 ⟨d, o⟩ = .ok (c', rest) := by
  rw [encFrag_vecWithLen]
  constructor
  · intro h
    split at h
    · next n ts1 =>
      split at h
      · cases h
      · next hc =>
        obtain ⟨⟨d, o⟩, hp, h⟩ := Res.bind_eq_ok h
        exact ⟨n, ts1, d, o, rfl, hc, hp, h⟩
    · cases h
  · rintro ⟨n, ts1, d, o, rfl, hc, hp, h⟩
    dsimp only
    rw [if_neg hc, hp]
    exact h

theorem encFrag_lenMiddle_ok {cfg : Cfg} {glo : SigTable} {f1 f2 : Fields} {l : DfSpec} {e : Frag} {cap : Nat}
    {ts rest : List Tok} {c c' : Cur} :
    encFrag cfg glo (.lenMiddle f1 l f2 e cap) ts c = .ok (c', rest) ↔
      ∃ c1 n ts2 c2 tsx c3 ts3, encFields cfg glo f1 ts c = .ok (c1, .count n :: ts2) ∧ ¬ n > cap ∧
        Df.encode cfg l [.int n] c1 = .ok (c2, tsx) ∧ encFields cfg glo f2 ts2 c2 = .ok (c3, ts3) ∧
        encRepeat (encFrag cfg glo e) n ts3 c3 = .ok (c', rest) := by
  rw [encFrag_lenMiddle]
  constructor
  · intro h
    obtain ⟨⟨c1, ts1⟩, h1, h⟩ := Res.bind_eq_ok h
    dsimp only at h
    split at h
    · next n ts2 =>
      split at h
      · cases h
      · next hc =>
        obtain ⟨⟨c2, tsx⟩, hl, h⟩ := Res.bind_eq_ok h
        obtain ⟨⟨c3, ts3⟩, h2, h⟩ := Res.bind_eq_ok h
        exact ⟨c1, n, ts2, c2, tsx, c3, ts3, h1, hc, hl, h2, h⟩
    · cases h
  · rintro ⟨c1, n, ts2, c2, tsx, c3, ts3, h1, hc, hl, h2, h⟩
    rw [h1]
    show (if n > cap then _ else _) = _
    rw [if_neg hc, hl]
    show (encFields cfg glo f2 ts2 c2 >>= _) = _
    rw [h2]
    exact h

end Rtcm.Interp

namespace Rtcm.Df
open Rtcm.Schema Rtcm.Bits Rtcm.Interp

theorem decode_ok {cfg : Cfg} {s : DfSpec} {c c' : Cur} {t : List Tok} :
    decode cfg s c = .ok (t, c') ↔
      ∃ p o tk, parse cfg s.it c.data c.off s.len = .ok (p, o) ∧
        dequantise cfg s (carrierVal s.it p) = .ok tk ∧ t = toksOf s (carrierVal s.it p) tk ∧
        c' = { c with off := o } := by
  rw [decode_toks]
  constructor
  · intro h
    obtain ⟨⟨p, o⟩, hp, h⟩ := Res.bind_eq_ok h
    obtain ⟨tk, hq, h⟩ := Res.bind_eq_ok h
    cases h
    exact ⟨p, o, tk, hp, hq, rfl, rfl⟩
  · rintro ⟨p, o, tk, hp, hq, rfl, rfl⟩
    rw [hp]
    show (dequantise cfg s (carrierVal s.it p) >>= _) = _
    rw [hq]
    rfl

theorem dequantise_isVal {cfg : Cfg} {s : DfSpec} {sv : Int} {t : Tok} (h : dequantise cfg s sv = .ok t) :
    IsVal t := by
  cases hf : s.dt.isFloat with
  | true =>
    rw [dequantise_of_float hf] at h
    cases h
    exact .inr ⟨_, rfl⟩
  | false =>
    rw [dequantise_of_int hf] at h
    obtain ⟨z, _, h⟩ := Res.bind_eq_ok h
    split at h
    · obtain ⟨z', _, h⟩ := Res.bind_eq_ok h
      cases h
      exact .inl ⟨_, rfl⟩
    · cases h
      exact .inl ⟨_, rfl⟩

theorem toksOf_forall {s : DfSpec} {sv : Int} {tk : Tok} (hv : IsVal tk) {q : Tok → Prop}
    (ha : q .absent) (hp : q .present) (hq : ∀ t, IsVal t → q t) : ∀ t ∈ toksOf s sv tk, q t := by
  unfold toksOf
  intro t ht
  split at ht
  · split at ht
    · cases List.mem_singleton.mp ht; exact ha
    · rcases List.mem_cons.mp ht with rfl | ht
      · exact hp
      · cases List.mem_singleton.mp ht; exact hq _ hv
  · cases List.mem_singleton.mp ht; exact hq _ hv

theorem takeDf_toksOf {s : DfSpec} {sv : Int} {tk : Tok} (hv : IsVal tk) (rest : List Tok) :
    takeDf s (toksOf s sv tk ++ rest) = some (toksOf s sv tk, rest) := by
  unfold toksOf
  cases hi : s.inv with
  | some inv =>
    dsimp only
    split
    · exact takeDf_absent hi rest
    · exact takeDf_present hi tk rest
  | none => exact takeDf_val hi hv rest

theorem quantise_sat (s : DfSpec) (v : Tok) :
    (quantise s v).Sat (fun p => (∃ z, p = ofInt s.it.w z) ∧ IsVal v) (fun _ => True)
      (fun w => w.startsWith "tokens" = true) := by
  cases hf : s.dt.isFloat with
  | true =>
    rw [quantise_of_float hf]
    split
    · -- the bias step answers `ok` or a range error
      refine Res.Sat.bind (Q := fun _ => True) ?_ fun _ _ => ⟨⟨_, rfl⟩, .inr ⟨_, rfl⟩⟩
      cases s.bias with
      | none => trivial
      | some b =>
        dsimp only
        split
        · trivial
        · trivial
    · exact NoPanic.tokPanic_float
  | false =>
    rw [quantise_of_int hf]
    split
    · refine Res.Sat.bind (Q := fun _ => True) ?_ fun _ _ => ⟨⟨_, rfl⟩, .inl ⟨_, rfl⟩⟩
      cases s.bias with
      | none => trivial
      | some b =>
        dsimp only
        split
        · split
          · trivial
          · trivial
        · trivial
    · exact NoPanic.tokPanic_int

theorem pattern_sat (s : DfSpec) (ts : List Tok) :
    (pattern s ts).Sat (fun (p, rest) => ∃ t z, takeDf s ts = some (t, rest) ∧ ts = t ++ rest ∧ p = ofInt s.it.w z)
      (fun _ => True) (fun w => w.startsWith "tokens" = true) := by
  unfold pattern
  split
  · next inv hi =>
    split
    · exact ⟨[.absent], _, takeDf_absent hi _, rfl, rfl⟩
    · next v _ =>
      exact (quantise_sat s v).bind fun q ⟨⟨z, hz⟩, _⟩ =>
        ⟨[.present, v], z, takeDf_present hi v _, rfl, hz⟩
    · exact NoPanic.tokPanic_optional
  · next hi =>
    split
    · next v _ =>
      exact (quantise_sat s v).bind fun q ⟨⟨z, hz⟩, hv⟩ => ⟨[v], z, takeDf_val hi hv _, rfl, hz⟩
    · exact NoPanic.tokPanic_value

theorem encode_ok {cfg : Cfg} {s : DfSpec} {ts rest : List Tok} {c c' : Cur}
    (h : encode cfg s ts c = .ok (c', rest)) :
    ∃ t z, takeDf s ts = some (t, rest) ∧ ts = t ++ rest ∧
      put cfg s.it c.data c.off (ofInt s.it.w z) s.len = .ok (c'.data, c'.off) := by
  rw [encode_eq] at h
  obtain ⟨⟨p, r⟩, hp, h⟩ := Res.bind_eq_ok h
  obtain ⟨⟨d, o⟩, hput, h⟩ := Res.bind_eq_ok h
  cases h
  obtain ⟨t, z, ht, hts, rfl⟩ := (pattern_sat s ts).of_ok hp
  exact ⟨t, z, ht, hts, hput⟩

theorem encode_count {cfg : Cfg} {l : DfSpec} (hfl : l.dt.isFloat = false) (hres : l.res = none)
    (hbias : l.bias = none) (hinv : l.inv = none) {n : Nat} (hv : n < 2 ^ l.it.w) (r : List Tok) (c : Cur) :
    encode cfg l (.int n :: r) c = put cfg l.it c.data c.off n l.len >>= fun (d, o) => .ok (⟨d, o⟩, r) := by
  rw [encode_eq]
  simp only [pattern, hinv, quantise_of_int hfl, hbias, hres, ofInt_natCast hv, Res.bind_ok]

end Rtcm.Df
