import Rtcm.Proofs.MsmCodec
/-!
Every well-formed layout decodes locally (`decFrag_local`); the law without conditions on the tokens or the
start offset holds of those that are `lawKind` (given `countsFit` and `countFieldsPlain`): everything except
the three bias lists and the 1029 text field, whose laws carry such conditions (clean input, byte alignment;
Proofs/BiasCodec.lean, Proofs/SpecialRows.lean) and meet their table rows in Props/C01.lean.
-/
namespace Rtcm.FragLaw
open Rtcm.Bits Rtcm.Schema Rtcm.Interp Rtcm.CurLaws Rtcm.Text Rtcm.WF Rtcm.DecLocal Rtcm.CodecLaw

def lawKind : Frag → Bool
  | .df _ => true
  | .str _ _ => true
  | .text1029 => false
  | .bias1059 _ _ => false
  | .bias1065 _ _ => false
  | .bias1230 => false
  | .seq fs => lawFields fs
  | .lenMiddle f1 _ f2 e _ => lawFields f1 && lawFields f2 && lawKind e
  | .vecWithLen e _ _ => lawKind e
  | .grid16 e => lawKind e
  | .msm _ _ _ => true
where lawFields : Fields → Bool
  | .nil => true
  | .cons _ f rest => lawKind f && lawFields rest

theorem text_local (cfg : Cfg) : LocalG (text1029Decode cfg) := by
  intro D o t c' h
  rw [text1029Decode_eq] at h
  obtain ⟨⟨_, c1⟩, e1, h⟩ := Res.bind_eq_ok h
  obtain ⟨⟨len, c2⟩, e2, h⟩ := Res.bind_eq_ok h
  obtain ⟨rfl, hf1, l1⟩ := parseU_local cfg e1
  obtain ⟨rfl, hf2, l2⟩ := parseU_local cfg e2
  dsimp only at h
  split at h
  · cases h
  · next hlen =>
    split at h
    · next hv =>
      cases h
      simp only [List.length_drop] at hlen
      refine ⟨rfl, by simp only; omega, ?_⟩
      intro D' hb hb' hf ha
      simp only at hf ha
      rw [text1029Decode_eq, l1 D' (by omega) (ha.mono (Nat.le_refl _) (by omega))]
      show (parseU cfg 8 8 ⟨D', o + 7⟩ >>= _) = _
      rw [l2 D' (by omega) (ha.mono (by omega) (by omega))]
      -- the text bytes lie inside the bits on which the two buffers agree
      have hk : ((D'.drop ((o + 7 + 8) / 8)).take len) = ((D.drop ((o + 7 + 8) / 8)).take len) := by
        apply List.ext_getElem
        · simp only [List.length_take, List.length_drop]; omega
        · intro i hi hi'
          simp only [List.length_take, List.length_drop] at hi hi'
          simp only [List.getElem_take, List.getElem_drop]
          exact byte_ext (by omega) (by omega) (hb' _ (List.getElem_mem _)) (hb _ (List.getElem_mem _))
            fun g _ _ => ha g (by omega) (by omega)
      show (if _ then _ else _) = _
      rw [if_neg (by simp only [List.length_drop]; omega), hk, if_pos hv]
    · cases h

mutual
theorem decFrag_local (cfg : Cfg) : ∀ (f : Frag), WFFrag f = true → Local (decFrag cfg f)
  | .df s, hw => decFrag_df cfg s ▸ df_local cfg s (NoPanic.widths_of_wf hw)
  | .str cap lenBits, hw =>
    ((strDecode_local cfg cap lenBits (wfFrag_str.mp hw)).bind fun b =>
      localG_pure [Tok.bytes b]).congr (decFrag_str cfg cap lenBits)
  | .text1029, _ => ((text_local cfg).bind fun b => localG_pure [Tok.bytes b]).congr (decFrag_text1029 cfg)
  | .bias1059 cap tbl, _ => bias1059_local cfg cap tbl
  | .bias1065 cap tbl, _ => bias1065_local cfg cap tbl
  | .bias1230, _ => bias1230_local cfg
  | .msm tbl sat sig, hw =>
    MsmCodec.msm_local cfg tbl sat sig (NoPanic.widthsAll_of_wfSpecs (wfFrag_msm.mp hw).2.1)
      (NoPanic.widthsAll_of_wfSpecs (wfFrag_msm.mp hw).2.2)
  | .seq fs, hw => decFrag_seq cfg fs ▸ decFields_local cfg fs hw
  | .grid16 e, hw => decFrag_grid16 cfg e ▸ local_repeat (decFrag_local cfg e hw) 16
  | .vecWithLen e cap lb, hw => by
    obtain ⟨hW, hwe⟩ := wfFrag_vecWithLen.mp hw
    exact ((parseU_localG cfg 16 lb hW).bind fun n =>
      localG_ite _ (fun _ => localG_err _) fun _ =>
        (local_repeat (decFrag_local cfg e hwe) n).bind fun te => localG_pure (Tok.count n :: te)).congr
      fun c => by
        rw [decFrag_vecWithLen, parseU_eq_bind]
        cases Bits.parse cfg ⟨.u, 16⟩ c.data c.off lb <;> rfl
  | .lenMiddle f1 l f2 e cap, hw => by
    -- by inversion and not by the locality rules: the four readers are chained through a match on the
    -- count token, and the rule form of that chain is much slower to check
    obtain ⟨hw1, hwl, hw2, hwe⟩ := wfFrag_lenMiddle.mp hw
    intro D o t c' h
    obtain ⟨t1, c1, n, c2, t2, c3, te, e1, el, e2, hc, er, rfl⟩ := decFrag_lenMiddle_ok.mp h
    obtain ⟨d1, m1, l1⟩ := localG_of_data (decFields_local cfg f1 hw1) e1
    obtain ⟨dl, ml, ll⟩ := localG_of_data
      (df_local cfg l (NoPanic.widths_of_wf (NoPanic.wf_of_wfCount hwl))) el
    obtain ⟨d2, m2, l2⟩ := localG_of_data (decFields_local cfg f2 hw2) e2
    obtain ⟨de, me, le⟩ := localG_of_data (local_repeat (decFrag_local cfg e hwe) n.toNat) er
    simp only at d1 m1 l1
    rw [d1] at ll dl
    rw [dl] at l2 d2
    rw [d2] at le de
    exact ⟨de, by omega, fun D' hb hb' hf ha => decFrag_lenMiddle_ok.mpr ⟨t1, _, n, _, t2, _, te,
      l1 D' hb hb' (by omega) (ha.mono (Nat.le_refl _) (by omega)),
      ll D' hb hb' (by omega) (ha.mono (by omega) (by omega)),
      l2 D' hb hb' (by omega) (ha.mono (by omega) (by omega)), hc,
      le D' hb hb' hf (ha.mono (by omega) (Nat.le_refl _)), rfl⟩⟩
theorem decFields_local (cfg : Cfg) : ∀ (fs : Fields), WFFields fs = true → Local (decFields cfg fs)
  | .nil, _ => decFields_nil cfg ▸ localG_pure []
  | .cons nm f rest, hw =>
    decFields_cons_seq cfg nm f rest ▸
      local_seq (decFrag_local cfg f (wfFields_cons.mp hw).1)
        (decFields_local cfg rest (wfFields_cons.mp hw).2)
end

mutual
theorem encFrag_law (cfg : Cfg) (glo : SigTable) : ∀ (f : Frag), WFFrag f = true →
    Size.countsFit f = true → C15.countFieldsPlain f = true → lawKind f = true →
    Law (encFrag cfg glo f) (decFrag cfg f)
  | .df s, hw, _, _, _ => encFrag_df cfg glo s ▸ decFrag_df cfg s ▸ df_law cfg s hw
  | .str cap lenBits, hw, hcf, _, _ =>
    str_law cfg glo cap lenBits (wfFrag_str.mp hw) (Size.countsFit_str.mp hcf).1
  | .text1029, _, _, _, hs => by simp [lawKind] at hs
  | .bias1059 _ _, _, _, _, hs => by simp [lawKind] at hs
  | .bias1065 _ _, _, _, _, hs => by simp [lawKind] at hs
  | .bias1230, _, _, _, hs => by simp [lawKind] at hs
  | .msm tbl sat sig, hw, _, _, _ =>
    MsmCodec.msm_law cfg glo tbl (wfFrag_msm.mp hw).1 sat sig (wfFrag_msm.mp hw).2.1 (wfFrag_msm.mp hw).2.2
  | .seq fs, hw, hcf, hcp, hs => encFrag_seq cfg glo fs ▸ decFrag_seq cfg fs ▸
      encFields_law cfg glo fs hw hcf hcp (by rwa [lawKind] at hs)
  | .grid16 e, hw, hcf, hcp, hs => by
    rw [lawKind] at hs
    exact encFrag_grid16 cfg glo e ▸ decFrag_grid16 cfg e ▸
      law_repeat (encFrag_law cfg glo e hw hcf hcp hs) (decFrag_local cfg e hw) 16
  | .vecWithLen e cap lenBits, hw0, hcf, hcp, hs => by
    rw [lawKind] at hs
    obtain ⟨⟨-, -, h1, h16⟩, hwe⟩ := wfFrag_vecWithLen.mp hw0
    obtain ⟨hcap, -, hcfe⟩ := Size.countsFit_vecWithLen.mp hcf
    have LR := law_repeat (encFrag_law cfg glo e hwe hcfe (C15.countFieldsPlain_vecWithLen.mp hcp).2 hs)
      (decFrag_local cfg e hwe)
    intro ts c c' rest hg hfit hok h
    obtain ⟨n, rest0, d, o, rfl, hncap, hp, hr⟩ := encFrag_vec_ok.mp h
    have hlt : n < 2 ^ lenBits := by omega
    have h216 : 2 ^ lenBits ≤ 2 ^ 16 := Nat.pow_le_pow_right (by decide) h16
    have h65536 : n % 65536 = n := Nat.mod_eq_of_lt (by omega)
    have hputF : putF cfg ⟨.u, 16⟩ n lenBits c = .ok ⟨d, o⟩ := putF_ok_iff.mpr (h65536 ▸ hp)
    obtain ⟨e1, hoff, hrd⟩ := putF_law cfg ⟨.u, 16⟩ ⟨by decide, by decide, h1, h16⟩ hg
      (show n < 2 ^ 16 by omega) hputF
    have x1 := ext_of_curExt e1
    obtain ⟨⟨pre, hsuf⟩, x2, nts, d2, r2, fx2⟩ :=
      LR n rest0 ⟨d, o⟩ c' rest x1.good (x1.fit hfit) hok.tail hr
    refine ⟨⟨.count n :: pre, by rw [hsuf]; rfl⟩, encFrag_ext hw0 hg h, .count n :: nts, ?_, ?_, ?_⟩
    · have hpr := hrd c'.data x2.len (fun g _ hg => x2.keep g hg)
      rw [readValue_wireValue_u 16 lenBits n hlt] at hpr
      exact decFrag_vec_ok.mpr ⟨n, _, nts, parse_of_parseF hpr, hncap, d2, rfl⟩
    · intro rest'
      exact encFrag_vec_ok.mpr ⟨n, _, d, o, rfl, hncap, hp, r2 rest'⟩
    · intro c0 t0 c0' r h0 hts
      obtain ⟨n0, o0, te, _, _, hrep0, rfl⟩ := decFrag_vec_ok.mp h0
      cases hts
      obtain ⟨rfl, rfl⟩ := fx2 _ _ _ r hrep0 rfl
      exact ⟨rfl, rfl⟩
  | .lenMiddle f1 l f2 e cap, hw0, hcf, hcp, hs => by
    simp only [lawKind, Bool.and_eq_true] at hs
    obtain ⟨hw1, hwl, hw2, hwe⟩ := wfFrag_lenMiddle.mp hw0
    obtain ⟨⟨hcap, -, -, -⟩, hcf1, hcf2, hcfe⟩ := Size.countsFit_lenMiddle.mp hcf
    obtain ⟨⟨hk, -, -⟩, hcp1, hcp2, hcpe⟩ := C15.countFieldsPlain_lenMiddle.mp hcp
    obtain ⟨⟨hs1, hs2⟩, hse⟩ := hs
    have L1 := encFields_law cfg glo f1 hw1 hcf1 hcp1 hs1
    have L2 := encFields_law cfg glo f2 hw2 hcf2 hcp2 hs2
    have LR := law_repeat (encFrag_law cfg glo e hwe hcfe hcpe hse) (decFrag_local cfg e hwe)
    have hwfl := NoPanic.wf_of_wfCount hwl
    have ll := df_local cfg l (NoPanic.widths_of_wf hwfl)
    -- four stages `c → c1 → c2 → c3 → c4` (fields, count, fields, `n` elements), each with its law; what
    -- an earlier stage's decoder read it still reads from the final buffer, by locality (`read_after`)
    intro ts c c4 rest hg hfit hok h
    obtain ⟨c1, n, ts2, c2, tsx, c3, ts3, e1, hncap, el, e2, er⟩ := encFrag_lenMiddle_ok.mp h
    obtain ⟨⟨pre1, hsuf1⟩, x1, nt1, d1, r1, fx1⟩ := L1 ts c c1 _ hg hfit hok e1
    have hok1 : TokOK (.count n :: ts2) := (hsuf1 ▸ hok).suffix
    have xl : NoPanic.Ext c1 c2 :=
      (NoPanic.dfEncode_es cfg l [.int n] c1 (NoPanic.widths_of_wf hwfl) x1.good).of_ok el
    obtain ⟨dl, rl⟩ := count_law cfg l hwl hk (show n < 2 ^ l.len by omega) el
    have hf1 := x1.fit hfit
    have hfl := xl.fit hf1
    obtain ⟨⟨pre2, hsuf2⟩, x2, nt2, d2, r2, fx2⟩ := L2 ts2 c2 c3 ts3 xl.good hfl hok1.tail e2
    have hf3 := x2.fit hfl
    obtain ⟨⟨pre3, hsuf3⟩, x3, nte, d3, r3, fx3⟩ :=
      LR n ts3 c3 c4 rest x2.good hf3 (hsuf2 ▸ hok1.tail).suffix er
    refine ⟨⟨pre1 ++ .count n :: (pre2 ++ pre3), ?_⟩, encFrag_ext hw0 hg h,
      nt1 ++ [.count n] ++ nt2 ++ nte, ?_, ?_, ?_⟩
    · rw [hsuf1, hsuf2, hsuf3]
      simp only [List.append_assoc, List.cons_append]
    · exact decFrag_lenMiddle_ok.mpr ⟨nt1, _, n, _, nt2, _, nte,
        read_after (decFields_local cfg f1 hw1) ((xl.trans x2).trans x3) x1.good hf1 d1,
        read_after ll (x2.trans x3) xl.good hfl dl,
        read_after (decFields_local cfg f2 hw2) x3 x2.good hf3 d2, hncap, d3, rfl⟩
    · intro rest'
      refine encFrag_lenMiddle_ok.mpr ⟨c1, n, _, c2, tsx, c3, _, ?_, hncap, el, r2 _, r3 rest'⟩
      simp only [List.append_assoc, List.cons_append, List.nil_append]
      exact r1 _
    · intro c0 t0 c0' r h0 hts
      obtain ⟨t1, ca, n0, cb, t2, cc, te, ha, hb, hc, _, hrep0, rfl⟩ := decFrag_lenMiddle_ok.mp h0
      simp only [List.append_assoc, List.cons_append, List.nil_append] at hts
      obtain ⟨rfl, hts1⟩ := fx1 c0 t1 ca _ ha hts
      cases hts1
      obtain ⟨rfl, rfl⟩ := fx2 cb t2 cc _ hc rfl
      obtain ⟨rfl, rfl⟩ := fx3 cc _ c0' r hrep0 rfl
      exact ⟨rfl, rfl⟩
theorem encFields_law (cfg : Cfg) (glo : SigTable) : ∀ (fs : Fields), WFFields fs = true →
    Size.countsFitFields fs = true → C15.countFieldsPlainFields fs = true →
    lawKind.lawFields fs = true → Law (encFields cfg glo fs) (decFields cfg fs)
  | .nil, _, _, _, _ => encFields_nil cfg glo ▸ decFields_nil cfg ▸ law_nil
  | .cons nm f rest, hw0, hcf, hcp, hs => by
    have hw := wfFields_cons.mp hw0
    have hcf := Size.countsFitFields_cons.mp hcf
    have hcp := C15.countFieldsPlainFields_cons.mp hcp
    simp only [lawKind.lawFields, Bool.and_eq_true] at hs
    exact encFields_cons_seq cfg glo nm f rest ▸ decFields_cons_seq cfg nm f rest ▸
      law_seq (encFrag_law cfg glo f hw.1 hcf.1 hcp.1 hs.1)
        (encFields_law cfg glo rest hw.2 hcf.2 hcp.2 hs.2) (decFrag_local cfg f hw.1)
end

theorem TokOK.append {a b : List Tok} (ha : TokOK a) (hb : TokOK b) : TokOK (a ++ b) := ha.append hb

theorem df_tokOK {cfg : Cfg} {s : DfSpec} {c c' : Cur} {t : List Tok}
    (h : Df.decode cfg s c = .ok (t, c')) : TokOK t := by
  obtain ⟨p, o, tk, _, hq, rfl, _⟩ := Df.decode_ok.mp h
  refine Df.toksOf_forall (Df.dequantise_isVal hq) rfl rfl fun t ht => ?_
  rcases ht with ⟨z, rfl⟩ | ⟨b, rfl⟩ <;> rfl

theorem parseU8_lt {cfg : Cfg} {c c' : Cur} {v : Nat} (h : parseU cfg 8 8 c = .ok (v, c')) : v < 256 := by
  obtain ⟨⟨_, o⟩, e, h⟩ := Res.bind_eq_ok (parseU_eq_bind .. ▸ h)
  cases h
  obtain ⟨-, -, rfl⟩ :=
    (parse_ok_iff cfg ⟨.u, 8⟩ c.data c.off 8 (by decide) (by decide) (by decide)).mp e
  exact fieldValue_lt c.data c.off 8

theorem parseBytes_lt (cfg : Cfg) : ∀ (n : Nat) (c c' : Cur) (bs : List Nat),
    parseBytes cfg n c = .ok (bs, c') → ∀ x ∈ bs, x < 256
  | 0, c, c', bs, h => by cases h; nofun
  | n + 1, c, c', bs, h => by
    rw [parseBytes_succ] at h
    obtain ⟨⟨b, c1⟩, e1, h⟩ := Res.bind_eq_ok h
    obtain ⟨bs1, e2, rfl⟩ := (bind_map_ok (b :: ·)).mp h
    intro x hx
    rcases List.mem_cons.mp hx with rfl | hx
    · exact parseU8_lt e1
    · exact parseBytes_lt cfg n _ _ _ e2 x hx

theorem flatten_tokOK {cfg : Cfg} {fs : List (String × DfSpec)} {row : List (List Tok)}
    (h : List.Forall₂ (fun (f : String × DfSpec) t => MsmCodec.DecOut cfg f.2 t) fs row) : TokOK row.flatten := by
  induction h with
  | nil => exact TokOK.nil
  | cons hab _ ih =>
    obtain ⟨_, _, hd⟩ := hab
    rw [List.flatten_cons]
    exact (df_tokOK hd).append ih

theorem msm_tokOK {cfg : Cfg} {tbl : SigTable} {satFields sigFields : List (String × DfSpec)} {c c' : Cur}
    {t : List Tok} (h : decFrag cfg (.msm tbl satFields sigFields) c = .ok (t, c')) : TokOK t := by
  obtain ⟨⟨sats, sigs, c2⟩, e, h⟩ := Res.bind_eq_ok (decFrag_msm .. ▸ h)
  cases h
  obtain ⟨h1, h2⟩ := MsmCodec.decode_rows e
  apply TokOK.append
  · refine TokOK.cons rfl fun x hx => ?_
    obtain ⟨r, hr, hx⟩ := List.mem_flatMap.mp hx
    rcases List.mem_cons.mp hx with rfl | hx
    · rfl
    · exact flatten_tokOK (h1 r hr) x hx
  · refine TokOK.cons rfl fun x hx => ?_
    obtain ⟨r, hr, hx⟩ := List.mem_flatMap.mp hx
    rcases List.mem_cons.mp hx with rfl | hx
    · rfl
    · rcases List.mem_cons.mp hx with rfl | hx
      · rfl
      · exact flatten_tokOK (h2 r hr) x hx

theorem strDecode_lt {cfg : Cfg} {cap lenBits : Nat} {c c' : Cur} {b : List Nat}
    (h : strDecode cfg cap lenBits c = .ok (b, c')) : ∀ x ∈ b, x < 256 := by
  obtain ⟨len, c1, bs, e, rfl⟩ := strDecode_image h
  intro x hx
  obtain ⟨y, hy, rfl⟩ := List.mem_map.mp hx
  have := parseBytes_lt cfg _ _ _ _ e y hy
  unfold pushNorm
  split <;> omega

theorem decRepeat_tokOK {d : Dec} (hd : ∀ c t c', d c = .ok (t, c') → TokOK t) :
    ∀ n c t c', decRepeat d n c = .ok (t, c') → TokOK t :=
  decRepeat_post TokOK.nil (fun _ _ => TokOK.append) hd

mutual
theorem decFrag_tokOK (cfg : Cfg) : ∀ (f : Frag), lawKind f = true →
    ∀ c t c', decFrag cfg f c = .ok (t, c') → TokOK t
  | .df s, _ => decFrag_df cfg s ▸ fun _ _ _ => df_tokOK
  | .str cap lenBits, _ => by
    intro c t c' h
    obtain ⟨b, e, rfl⟩ := (bind_map_ok fun b => [Tok.bytes b]).mp (decFrag_str .. ▸ h)
    exact TokOK.cons (by simpa [tokOK] using strDecode_lt e) TokOK.nil
  | .text1029, hs => by simp [lawKind] at hs
  | .bias1059 _ _, hs => by simp [lawKind] at hs
  | .bias1065 _ _, hs => by simp [lawKind] at hs
  | .bias1230, hs => by simp [lawKind] at hs
  | .msm tbl sat sig, _ => fun c t c' h => msm_tokOK h
  | .seq fs, hs => decFrag_seq cfg fs ▸ decFields_tokOK cfg fs (by rwa [lawKind] at hs)
  | .grid16 e, hs =>
    decFrag_grid16 cfg e ▸ decRepeat_tokOK (decFrag_tokOK cfg e (by rwa [lawKind] at hs)) 16
  | .vecWithLen e cap lenBits, hs => by
    intro c t c' h
    obtain ⟨n, o, te, _, _, hr, rfl⟩ := decFrag_vec_ok.mp h
    exact TokOK.cons rfl (decRepeat_tokOK (decFrag_tokOK cfg e (by rwa [lawKind] at hs)) n _ _ _ hr)
  | .lenMiddle f1 l f2 e cap, hs => by
    simp only [lawKind, Bool.and_eq_true] at hs
    intro c t c' h
    obtain ⟨t1, c1, n, c2, t2, c3, te, h1, _, h2, _, hr, rfl⟩ := decFrag_lenMiddle_ok.mp h
    exact (((decFields_tokOK cfg f1 hs.1.1 _ _ _ h1).append (.cons rfl .nil)).append
      (decFields_tokOK cfg f2 hs.1.2 _ _ _ h2)).append (decRepeat_tokOK (decFrag_tokOK cfg e hs.2) _ _ _ _ hr)
theorem decFields_tokOK (cfg : Cfg) : ∀ (fs : Fields), lawKind.lawFields fs = true →
    ∀ c t c', decFields cfg fs c = .ok (t, c') → TokOK t
  | .nil, _ => decFields_nil cfg ▸ fun c t c' e => by cases e; exact TokOK.nil
  | .cons nm f rest, hs => by
    simp only [lawKind.lawFields, Bool.and_eq_true] at hs
    exact decFields_cons_seq cfg nm f rest ▸
      Dec.seq_post (fun _ _ => TokOK.append) (decFrag_tokOK cfg f hs.1) (decFields_tokOK cfg rest hs.2)
end

end Rtcm.FragLaw
