import Rtcm.Model.Bias
import Rtcm.Proofs.ResLaws
import Rtcm.Proofs.BitPrim
/-!
A leaf encoder that only sequences `put`s (possibly refusing on the way) is `putAll` of a list of
`Item`s: the fields it writes, in order, and the places where it gives up with an error.  Once an
encoder is shown equal to `putAll cfg (its layout)`, what it does to the cursor is a fact about
`putAll` (`putAll_sat`: one traversal for every outcome specification), and what it writes is a
fact about a list.

This file is the writer alone and uses no fact about the bit packer (of Proofs/BitPrim only
`Bits.Widths`), so the invariants of all encoders (Proofs/EncInvariants, Proofs/NoPanicEnc) can use
it.  What a reader finds where a layout was written, also in namespace `Layout`, is in Proofs/CurLaws.
-/
namespace Rtcm

namespace CurLaws
open Rtcm.Bits Rtcm.Text

/-- one field of any `BitValue` kind on a `Cur`.  It is declared here because `putAll` sequences it,
and in this namespace because its reader `parseF` and its laws are there (Proofs/CurLaws) -/
def putF (cfg : Cfg) (it : IT) (v len : Nat) (c : Cur) : Res Cur :=
  match Bits.put cfg it c.data c.off v len with
  | .ok (d, o) => .ok { data := d, off := o }
  | .err e => .err e
  | .panic p => .panic p

theorem putU_eq (cfg : Cfg) (w v len : Nat) (c : Cur) : putU cfg w v len c = putF cfg ⟨.u, w⟩ v len c := rfl

theorem putI16_eq (cfg : Cfg) (v len : Nat) (c : Cur) :
    Bias.putI16 cfg v len c = putF cfg ⟨.i, 16⟩ v len c := rfl

end CurLaws

namespace Layout
open Rtcm.Bits Rtcm.CurLaws

/-- one step of a straight-line writer: a field (carrier, width in bits, value) or a refusal -/
inductive Item where
  | fld (it : IT) (len v : Nat)
  | fail (e : RtcmError)

def Item.Wf : Item → Prop
  | .fld it len _ => Bits.Widths it.w len
  | .fail _ => True

def putAll (cfg : Cfg) : List Item → Cur → Res Cur
  | [], c => .ok c
  | .fld it len v :: r, c => putF cfg it v len c >>= putAll cfg r
  | .fail e :: _, _ => .err e

def bits : List Item → Nat
  | [] => 0
  | .fld _ len _ :: r => len + bits r
  | .fail _ :: r => bits r

-- the three-way match unfolds in the defeq check only with smart unfolding off
set_option smartUnfolding false in
theorem putF_eq_bind (cfg : Cfg) (it : IT) (v len : Nat) (c : Cur) :
    putF cfg it v len c = Bits.put cfg it c.data c.off v len >>= fun (d, o) => .ok { data := d, off := o } :=
  rfl

theorem putAll_append (cfg : Cfg) : ∀ (a b : List Item) (c : Cur),
    putAll cfg (a ++ b) c = putAll cfg a c >>= putAll cfg b
  | [], _, _ => rfl
  | .fld it len v :: a, b, c => by
    simp only [List.cons_append, putAll]
    cases putF cfg it v len c with
    | ok c1 => exact putAll_append cfg a b c1
    | err e => rfl
    | panic w => rfl
  | .fail _ :: _, _, _ => rfl

theorem bits_append : ∀ a b : List Item, bits (a ++ b) = bits a + bits b
  | [], _ => (Nat.zero_add _).symm
  | .fld _ len _ :: a, b => by simp only [List.cons_append, bits, bits_append a b]; omega
  | .fail _ :: a, b => by simp only [List.cons_append, bits, bits_append a b]

theorem putAll_ok_noFail (cfg : Cfg) : ∀ (is : List Item) (c c' : Cur),
    putAll cfg is c = .ok c' → ∀ e, Item.fail e ∉ is
  | [], _, _, _, _, h => by cases h
  | .fld it len v :: r, c, c', h, e, hm => by
    obtain ⟨c1, _, h⟩ := Res.bind_eq_ok h
    rcases List.mem_cons.mp hm with h0 | h0
    · cases h0
    · exact putAll_ok_noFail cfg r c1 c' h e h0
  | .fail _ :: _, _, _, h, _, _ => by cases h

-- reflexivity is asked only where `G` holds: `Ext.refl` needs a buffer of bytes
theorem putAll_sat {cfg : Cfg} {R : Cur → Cur → Prop} {G : Cur → Prop} {E : RtcmError → Prop}
    {P : String → Prop} (refl : ∀ c, G c → R c c) (trans : ∀ {a b c}, R a b → R b c → R a c) :
    ∀ (is : List Item),
      (∀ it len v, Item.fld it len v ∈ is → ∀ c, G c →
        (putF cfg it v len c).Sat (fun c' => R c c' ∧ G c') E P) →
      (∀ e, Item.fail e ∈ is → E e) → ∀ c, G c →
      (putAll cfg is c).Sat (fun c' => R c c' ∧ G c') E P
  | [], _, _, c, hc => ⟨refl c hc, hc⟩
  | .fail e :: _, _, hf, _, _ => hf e (List.mem_cons_self ..)
  | .fld it len v :: r, hp, hf, c, hc =>
    (hp it len v (List.mem_cons_self ..) c hc).bind fun c1 h1 =>
      (putAll_sat refl trans r (fun it len v h => hp it len v (List.mem_cons_of_mem _ h))
        (fun e h => hf e (List.mem_cons_of_mem _ h)) c1 h1.2).imp fun _ h => ⟨trans h1.1 h.1, h.2⟩

end Layout
end Rtcm
