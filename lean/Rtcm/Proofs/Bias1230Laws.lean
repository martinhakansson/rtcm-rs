import Rtcm.Proofs.BiasLaws
/-!
The encoder sorts the entries by `Ord for GloSigId` (which consults the GLONASS MSM table), writes
the 4-bit mask of the signals present and one 16-bit bias per entry; the decoder walks the mask.
Two strands meet in `encode1230_decode`: the sort, followed along the table (`sorted_sublist`: under
`Glo1230Ok`, for recognised and pairwise distinct signals, the sorted keys are a sublist of the mask
order `tkeys`), and the reader, followed along
the mask (`dec1230Loop_reads`: entries whose keys are a sublist of the mask order are read back one
by one).
-/
namespace Rtcm.Bias1230Laws
open Rtcm.Bits Rtcm.Bias Rtcm.CurLaws Rtcm.BiasLaws Rtcm.Schema Rtcm.Layout Rtcm.Sig

def key (e : Entry) : Nat × Nat := (e.band, e.attr)

/-- the entry as it comes back from a 1230 frame -/
def norm1230 (e : Entry) : Entry :=
  { sat := 0, band := e.band, attr := e.attr,
    bias := dequantBias res002 (toInt 16 (quantBias res002 e.bias)) }

/-- `Ord for GloSigId` is a total preorder whatever the table: it is `≤` on `C18.key` -/
theorem le1230_iff_lex (t : SigTable) (a b : Entry) : le1230 t a b = true ↔
    C18.lex3Le (C18.key t (a.band, a.attr)) (C18.key t (b.band, b.attr)) := by
  rw [le1230, bne_iff_ne]; exact C18.cmp_ne_gt_iff t _ _

theorem le1230_total (t : SigTable) (a b : Entry) : le1230 t a b = true ∨ le1230 t b a = true := by
  simp only [le1230_iff_lex]; exact C18.lex3Le_total _ _

theorem le1230_trans (t : SigTable) (a b c : Entry) :
    le1230 t a b = true → le1230 t b c = true → le1230 t a c = true := by
  simp only [le1230_iff_lex]; exact C18.lex3Le_trans

/-- the GLONASS MSM table (consulted by `Ord for GloSigId`) recognises the four 1230 signals and
orders them as the mask does: 1C < 1P < 2C < 2P -/
def Glo1230Ok (t : SigTable) : Prop :=
  ∃ i0 i1 i2 i3, Sig.toId t 1 67 = some i0 ∧ Sig.toId t 1 80 = some i1 ∧
    Sig.toId t 2 67 = some i2 ∧ Sig.toId t 2 80 = some i3 ∧ i0 < i1 ∧ i1 < i2 ∧ i2 < i3

/-- what `Ord for GloSigId` compares -/
def rank1230 (t : SigTable) (k : Nat × Nat) : Nat := (Sig.toId t k.1 k.2).getD 0

def tkeys : List (Nat × Nat) := gloTable1230.map (·.1)

theorem tkeys_eq : tkeys = [(1, 67), (1, 80), (2, 67), (2, 80)] := rfl

theorem le1230_iff (t : SigTable) (hg : Glo1230Ok t) (a b : Entry) (ha : key a ∈ tkeys)
    (hb : key b ∈ tkeys) : le1230 t a b = true ↔ rank1230 t (key a) ≤ rank1230 t (key b) := by
  obtain ⟨i0, i1, i2, i3, h0, h1, h2, h3, _⟩ := hg
  have hrec : ∀ k ∈ tkeys, ∃ i, Sig.toId t k.1 k.2 = some i := by
    intro k hk
    simp only [tkeys_eq, List.mem_cons, List.mem_nil_iff, or_false] at hk
    rcases hk with rfl | rfl | rfl | rfl
    exacts [⟨_, h0⟩, ⟨_, h1⟩, ⟨_, h2⟩, ⟨_, h3⟩]
  obtain ⟨ia, hia⟩ := hrec _ ha
  obtain ⟨ib, hib⟩ := hrec _ hb
  simp only [key] at hia hib
  simp only [le1230, Sig.cmp, hia, hib, rank1230, key, Option.getD_some, bne_iff_ne, ne_eq,
    Nat.compare_eq_gt]
  omega

theorem rank1230_tkeys (t : SigTable) (hg : Glo1230Ok t) :
    tkeys.Pairwise (fun a b => rank1230 t a < rank1230 t b) := by
  obtain ⟨i0, i1, i2, i3, h0, h1, h2, h3, _, _, _⟩ := hg
  have hr : tkeys.map (rank1230 t) = [i0, i1, i2, i3] := by
    simp only [tkeys_eq, List.map_cons, List.map_nil, rank1230, h0, h1, h2, h3, Option.getD_some]
  refine List.pairwise_map.mp (hr ▸ ?_)
  refine .cons ?_ (.cons ?_ (.cons ?_ (.cons (fun _ hk => nomatch hk) .nil)))
  · intro k hk
    simp only [List.mem_cons, List.mem_nil_iff, or_false] at hk
    omega
  · intro k hk
    simp only [List.mem_cons, List.mem_nil_iff, or_false] at hk
    omega
  · intro k hk
    simp only [List.mem_cons, List.mem_nil_iff, or_false] at hk
    omega

theorem rank1230_inj (t : SigTable) (hg : Glo1230Ok t) (a b : Nat × Nat) (ha : a ∈ tkeys)
    (hb : b ∈ tkeys) (h : rank1230 t a = rank1230 t b) : a = b :=
  List.Pairwise.forall_of_forall_of_flip (R := fun x y => rank1230 t x = rank1230 t y → x = y)
    (fun _ _ _ => rfl)
    ((rank1230_tkeys t hg).imp fun hlt e => absurd e (Nat.ne_of_lt hlt))
    ((rank1230_tkeys t hg).imp fun hlt e => absurd e.symm (Nat.ne_of_lt hlt)) ha hb h

theorem sorted_sublist (t : SigTable) (hg : Glo1230Ok t) (v : List Entry)
    (hrec : ∀ e ∈ v, key e ∈ tkeys) (hnd : (v.map key).Nodup) :
    ((Sig.sortBy (le1230 t) v).map key).Sublist tkeys := by
  have hperm := sortBy_perm (le1230 t) v
  have hmem : ∀ e ∈ Sig.sortBy (le1230 t) v, key e ∈ tkeys :=
    fun e he => hrec e (hperm.mem_iff.mp he)
  have : Std.Antisymm fun a b => rank1230 t a < rank1230 t b :=
    ⟨fun _ _ h1 h2 => absurd h1 (Nat.lt_asymm h2)⟩
  -- distinct keys of the table, strictly ascending in rank like the table itself
  refine List.sublist_of_subperm_of_pairwise
    (List.subperm_of_subset ((hperm.map key).nodup_iff.mpr hnd) fun k hk => ?_) ?_ (rank1230_tkeys t hg)
  · obtain ⟨e, he, rfl⟩ := List.mem_map.mp hk
    exact hmem e he
  · refine List.pairwise_map.mpr
      ((Sig.sortBy_sorted_ne (le1230_total t) (le1230_trans t) hnd).imp_of_mem ?_)
    intro a b ha hb hab
    have hne : rank1230 t (key a) ≠ rank1230 t (key b) :=
      fun he => hab.2 (rank1230_inj t hg _ _ (hmem a ha) (hmem b hb) he)
    have := (le1230_iff t hg a b (hmem a ha) (hmem b hb)).mp hab.1
    omega

theorem maskBit_cases {b a m : Nat} (h : maskBit1230 b a = some m) :
    ((b, a), m) ∈ gloTable1230 := by
  obtain ⟨r, hf, rfl⟩ := Option.map_eq_some_iff.mp h
  have hp : r.1 = (b, a) := by simpa using List.find?_some hf
  exact hp ▸ List.mem_of_find?_eq_some hf

theorem maskBit_isSome_iff (b a : Nat) :
    (maskBit1230 b a).isSome = true ↔ (b, a) ∈ gloTable1230.map (·.1) := by
  unfold maskBit1230
  rw [Option.isSome_map, List.find?_isSome]
  simp only [beq_iff_eq, List.mem_map]

theorem firstBad_eq_false_iff : ∀ l : List Entry,
    firstBad1230 l = false ↔ ∀ e ∈ l, (e.band, e.attr) ∈ gloTable1230.map (·.1)
  | [] => by simp [firstBad1230]
  | e :: es => by
    rw [firstBad1230, Bool.or_eq_false_iff, firstBad_eq_false_iff es, List.forall_mem_cons,
      ← maskBit_isSome_iff, Option.isNone_eq_false_iff]

theorem maskOf_spec : ∀ l : List Entry, (∀ e ∈ l, (e.band, e.attr) ∈ gloTable1230.map (·.1)) →
    maskOf l < 2 ^ 4 ∧ ∀ r ∈ gloTable1230, (maskOf l &&& r.2 ≠ 0 ↔ r.1 ∈ l.map key)
  | [], _ => ⟨by decide, fun r _ => by simp [maskOf]⟩
  | e :: es, h => by
    obtain ⟨hlt, hbits⟩ := maskOf_spec es fun x hx => h x (List.mem_cons_of_mem _ hx)
    obtain ⟨b, hb⟩ := Option.isSome_iff_exists.mp
      ((maskBit_isSome_iff _ _).mpr (h e (List.mem_cons_self ..)))
    have hmem := maskBit_cases hb
    rw [maskOf, hb, Option.getD_some]
    refine ⟨Nat.or_lt_two_pow hlt ((by decide : ∀ r ∈ gloTable1230, r.2 < 2 ^ 4) _ hmem), fun r hr => ?_⟩
    -- the bits of the table are pairwise disjoint
    have hkey : b &&& r.2 ≠ 0 ↔ r.1 = key e :=
      (by decide : ∀ r' ∈ gloTable1230, ∀ r ∈ gloTable1230, (r'.2 &&& r.2 ≠ 0 ↔ r.1 = r'.1)) _ hmem r hr
    rw [List.map_cons, List.mem_cons, ← hbits r hr, ← hkey, Nat.and_or_distrib_right, Ne,
      Nat.or_eq_zero_iff, not_and_or]
    exact Or.comm

theorem wire16 (q : Nat) (hq : q < 2 ^ 16) :
    readValue ⟨.i, 16⟩ 16 (wireValue ⟨.i, 16⟩ 16 q) = q :=
  readValue_wireValue ⟨.i, 16⟩ (by decide) (by decide) hq (toInt_bounds (by decide) hq)

theorem dec1230Loop_reads (cfg : Cfg) (mask : Nat) (D : List Nat) :
    ∀ (T : List ((Nat × Nat) × Nat)) (l : List Entry) (o : Nat), (T.map (·.1)).Nodup →
      (l.map key).Sublist (T.map (·.1)) → (∀ r ∈ T, (mask &&& r.2 ≠ 0 ↔ r.1 ∈ l.map key)) →
      Reads cfg D o (biasItems1230 l) →
      dec1230Loop cfg mask T ⟨D, o⟩ = .ok (l.map norm1230, ⟨D, o + 16 * l.length⟩)
  | [], l, o, _, hsub, _, _ => by
    have : l = [] := by simpa using hsub
    subst this
    rfl
  | ((b, a), bit) :: rest, l, o, hnd, hsub, hmask, hr => by
    have ih := dec1230Loop_reads cfg mask D rest
    simp only [List.map_cons, List.nodup_cons] at hnd
    simp only [List.map_cons] at hsub
    have hrest : ∀ l' : List Entry, (∀ k, k ∈ l'.map key → k ∈ l.map key) →
        (∀ k, k ∈ l.map key → k ≠ (b, a) → k ∈ l'.map key) →
        ∀ r' ∈ rest, (mask &&& r'.2 ≠ 0 ↔ r'.1 ∈ l'.map key) := by
      intro l' h1 h2 r' hr'
      rw [hmask r' (List.mem_cons_of_mem _ hr')]
      exact ⟨fun hk => h2 _ hk fun heq => hnd.1 (heq ▸ List.mem_map_of_mem (f := (·.1)) hr'), h1 _⟩
    by_cases hm : (b, a) ∈ l.map key
    · -- the head signal is present: it is the first entry
      have hbit : mask &&& bit ≠ 0 := (hmask ((b, a), bit) (List.mem_cons_self ..)).mpr hm
      rcases List.sublist_cons_iff.mp hsub with hs | ⟨ks, hks, hs⟩
      · exact absurd (hs.subset hm) hnd.1
      · obtain ⟨e, l', rfl, hke, rfl⟩ := List.map_eq_cons_iff.mp hks
        obtain ⟨r1, r2⟩ := hr
        rw [dec1230Loop_cons, if_pos hbit, parseI16_eq, r1]
        simp only [Res.bind_ok]
        rw [ih l' _ hnd.2 hs (hrest l' (fun k hk => List.mem_cons_of_mem _ hk) fun k hk hne => by
          rcases List.mem_cons.mp hk with rfl | hk
          · exact absurd hke hne
          · exact hk) r2, wire16 _ (quantBias_lt _ _)]
        obtain ⟨rfl, rfl⟩ : e.band = b ∧ e.attr = a := by simpa only [key, Prod.mk.injEq] using hke
        rw [Res.bind_ok, List.length_cons, Nat.mul_succ, ← Nat.add_assoc, Nat.add_right_comm]
        rfl
    · -- the head signal is absent: the reader skips it
      have hbit : ¬ mask &&& bit ≠ 0 := fun hb => hm ((hmask ((b, a), bit) (List.mem_cons_self ..)).mp hb)
      rcases List.sublist_cons_iff.mp hsub with hs | ⟨ks, hks, _⟩
      · rw [dec1230Loop_cons, if_neg hbit]
        exact ih l o hnd.2 hs (hrest l (fun _ hk => hk) fun _ hk _ => hk) hr
      · exact absurd (by rw [hks]; exact List.mem_cons_self ..) hm

theorem items1230_lt (t : SigTable) (v : List Entry) : ∀ i ∈ items1230 t v, i.Lt := by
  intro i hi
  unfold items1230 at hi
  split at hi
  · rw [List.mem_singleton.mp hi]; trivial
  · next h =>
    rcases List.mem_cons.mp hi with rfl | hi
    · exact Nat.lt_of_lt_of_le
        (maskOf_spec _ ((firstBad_eq_false_iff _).mp (by simpa using h))).1 (by decide)
    · obtain ⟨e, _, rfl⟩ := List.mem_map.mp hi
      exact quantBias_lt _ _

theorem items1230_ok (t : SigTable) (v : List Entry) : ∀ i ∈ items1230 t v, i.Ok :=
  fun i hi => ⟨items1230_wf t v i hi, items1230_lt t v i hi⟩

theorem fail_mem_items1230 (t : SigTable) (v : List Entry) (x : RtcmError) :
    Item.fail x ∈ items1230 t v ↔ x = .invalidSignalId ∧ ∃ e ∈ v, key e ∉ tkeys := by
  have hperm := sortBy_perm (le1230 t) v
  unfold items1230
  split
  · next h =>
    have := (firstBad_eq_false_iff _).not.mp (by simpa using h)
    simp only [not_forall] at this
    obtain ⟨e, he, hn⟩ := this
    simp only [List.mem_singleton, Item.fail.injEq]
    exact ⟨fun hx => ⟨hx, e, hperm.mem_iff.mp he, hn⟩, fun hx => hx.1⟩
  · next h =>
    have := (firstBad_eq_false_iff _).mp (by simpa using h)
    simp only [biasItems1230, List.mem_cons, reduceCtorEq, List.mem_map, and_false, exists_false,
      or_self, false_iff, not_and, not_exists, not_not]
    exact fun _ e he => this e (hperm.mem_iff.mpr he)

theorem bits_biasItems1230 : ∀ l : List Entry, bits (biasItems1230 l) = 16 * l.length
  | [] => rfl
  | _ :: es => by rw [biasItems1230, List.map_cons, bits, ← biasItems1230, bits_biasItems1230 es,
      List.length_cons, Nat.mul_succ, Nat.add_comm]

theorem encode1230_ok (cfg : Cfg) (t : SigTable) (v : List Entry) (c c' : Cur) (hgood : Good c)
    (h : encode1230 cfg t v c = .ok c') :
    (∀ e ∈ v, key e ∈ tkeys) ∧ Ext c c' ∧ c'.off = c.off + 4 + 16 * v.length ∧
    Written c c' fun D =>
      Reads cfg D c.off (.fld ⟨.u, 8⟩ 4 (maskOf (Sig.sortBy (le1230 t) v)) ::
        biasItems1230 (Sig.sortBy (le1230 t) v)) := by
  rw [encode1230_putAll] at h
  have hrec : ∀ e ∈ v, key e ∈ tkeys := fun e he => Decidable.byContradiction fun hn =>
    putAll_ok_noFail cfg _ c c' h _ ((fail_mem_items1230 t v _).mpr ⟨rfl, e, he, hn⟩)
  have hperm := sortBy_perm (le1230 t) v
  have hne : items1230 t v ≠ [] := by unfold items1230; split <;> exact List.cons_ne_nil _ _
  obtain ⟨hext, hoff, hr⟩ := putAll_law hgood (items1230_ok t v) hne h
  rw [items1230, if_neg (by
    rw [(firstBad_eq_false_iff _).mpr fun e he => hrec e (hperm.mem_iff.mp he)]; decide)] at hoff hr
  refine ⟨hrec, hext, ?_, hr⟩
  rw [hoff, bits, bits_biasItems1230, hperm.length_eq, Nat.add_assoc]

theorem encode1230_decode (cfg : Cfg) (t : SigTable) (hg : Glo1230Ok t) (v : List Entry)
    (hnd : (v.map key).Nodup)
    (c c' : Cur) (hgood : Good c) (h : encode1230 cfg t v c = .ok c') :
    Ext c c' ∧ c'.off = c.off + 4 + 16 * v.length ∧
    Written c c' fun D =>
      decode1230 cfg ⟨D, c.off⟩ = .ok ((Sig.sortBy (le1230 t) v).map norm1230, ⟨D, c'.off⟩) := by
  have hperm := sortBy_perm (le1230 t) v
  obtain ⟨hrec, hext, hoff, hr⟩ := encode1230_ok cfg t v c c' hgood h
  refine ⟨hext, hoff, fun D hD ha => ?_⟩
  obtain ⟨r1, r2⟩ := hr D hD ha
  obtain ⟨hm16, hbits⟩ := maskOf_spec _ fun e he => hrec e (hperm.mem_iff.mp he)
  rw [decode1230_eq, parseU_eq, r1, readValue_wireValue_u 8 4 _ hm16]
  simp only [Res.bind_ok]
  rw [dec1230Loop_reads cfg _ D gloTable1230 _ _ (by decide) (sorted_sublist t hg v hrec hnd) hbits r2,
    hoff, hperm.length_eq, Nat.add_assoc]

theorem find_key_unique : ∀ (l : List Entry), (l.map key).Nodup → ∀ e ∈ l,
    l.find? (fun x => key x == key e) = some e := by
  intro l
  induction l with
  | nil => intro _ e he; cases he
  | cons x xs ih =>
    intro hnd e he
    simp only [List.map_cons, List.nodup_cons] at hnd
    rcases List.mem_cons.mp he with rfl | he'
    · simp
    · have hne : key x ≠ key e := fun h => hnd.1 (h ▸ List.mem_map_of_mem he')
      rw [List.find?_cons_of_neg (by simpa using hne)]
      exact ih hnd.2 e he'

theorem find_key_perm {l v : List Entry} (hp : l.Perm v) (hnd : (v.map key).Nodup)
    (k : Nat × Nat) : v.find? (fun x => key x == k) = l.find? (fun x => key x == k) := by
  have hndl : (l.map key).Nodup := (hp.map key).nodup_iff.mpr hnd
  cases hl : l.find? (fun x => key x == k) with
  | some e =>
    have hm := List.mem_of_find?_eq_some hl
    have hk := List.find?_some hl
    simp only [beq_iff_eq] at hk
    rw [← hk]
    exact find_key_unique v hnd e (hp.mem_iff.mp hm)
  | none =>
    rw [List.find?_eq_none] at hl ⊢
    intro x hx
    exact hl x (hp.mem_iff.mpr hx)

theorem filterMap_find_of_sublist :
    ∀ (T : List (Nat × Nat)) (l : List Entry), T.Nodup → (l.map key).Sublist T →
      T.filterMap (fun k => l.find? (fun x => key x == k)) = l := by
  intro T
  induction T with
  | nil =>
    intro l _ hs
    have : l = [] := by simpa using hs
    subst this
    rfl
  | cons k T ih =>
    intro l hnd hs
    rw [List.nodup_cons] at hnd
    rcases List.sublist_cons_iff.mp hs with hs' | ⟨ks, hks, hs'⟩
    · have hnone : l.find? (fun x => key x == k) = none := by
        rw [List.find?_eq_none]
        intro x hx hk
        simp only [beq_iff_eq] at hk
        exact hnd.1 (hs'.subset (hk ▸ List.mem_map_of_mem hx))
      rw [List.filterMap_cons, hnone]
      exact ih l hnd.2 hs'
    · obtain ⟨e, l', rfl, hke, rfl⟩ := List.map_eq_cons_iff.mp hks
      have hsome : (e :: l').find? (fun x => key x == k) = some e := by
        rw [List.find?_cons_of_pos]; simpa using hke
      have hrest : T.filterMap (fun k' => (e :: l').find? (fun x => key x == k'))
          = T.filterMap (fun k' => l'.find? (fun x => key x == k')) := by
        apply List.filterMap_congr
        intro k' hk'
        have hne : key e ≠ k' := fun h => hnd.1 (hke ▸ h ▸ hk')
        rw [List.find?_cons_of_neg (by simpa using hne)]
      rw [List.filterMap_cons, hsome]
      simp only
      rw [hrest, ih l' hnd.2 hs']

theorem sorted_eq_slots (t : SigTable) (hg : Glo1230Ok t) (v : List Entry)
    (hrec : ∀ e ∈ v, key e ∈ tkeys) (hnd : (v.map key).Nodup) :
    Sig.sortBy (le1230 t) v = tkeys.filterMap (fun k => v.find? (fun x => key x == k)) := by
  have hperm := sortBy_perm (le1230 t) v
  have hsub := sorted_sublist t hg v hrec hnd
  rw [← filterMap_find_of_sublist tkeys _ (by decide) hsub]
  apply List.filterMap_congr
  intro k _
  exact (find_key_perm hperm hnd k).symm

end Rtcm.Bias1230Laws
