import Rtcm.Proofs.MsmEncodeMasks
import Rtcm.Proofs.DecEqns
import Rtcm.Proofs.ResLaws
/-!
`cell_mask_id_vec` enumerates the set cells in ascending order; for masks computed by the encoder these
are the cells of the sorted signal rows (`Pre.cellIds_eq`), and the table lookup returns their keys.
-/
namespace Rtcm.MsmLaws
open Rtcm.Msm Rtcm.Schema Rtcm.Text
open Rtcm.Sig (TableOk toSig_of_toId)

/-- the order in which `cell_mask_id_vec` produces cells: by satellite, then by signal identifier -/
def lexLt (a b : Nat × Nat) : Prop := a.1 < b.1 ∨ (a.1 = b.1 ∧ a.2 < b.2)

instance : Std.Antisymm lexLt := ⟨fun a b h1 h2 => by unfold lexLt at *; omega⟩
instance : Std.Irrefl lexLt := ⟨fun a h => by unfold lexLt at h; omega⟩

theorem mem_cellIds (S G : List Nat) (cellMask : Nat) (c : Nat × Nat) :
    c ∈ cellIds S G cellMask ↔
      ∃ idx, idx < S.length * G.length ∧ cellMask.testBit (S.length * G.length - 1 - idx) = true ∧
        cellAt S G idx = c := by
  unfold cellIds cellAt
  simp only [List.mem_map, List.mem_filter, List.mem_range, and_assoc]

theorem cellAt_bounds {S G : List Nat} {idx : Nat} (h : idx < S.length * G.length) :
    idx / G.length < S.length ∧ idx % G.length < G.length := by
  have hL : 0 < G.length := Nat.pos_of_ne_zero fun h0 => by rw [h0] at h; omega
  exact ⟨Nat.div_lt_of_lt_mul (by rwa [Nat.mul_comm]), Nat.mod_lt _ hL⟩

theorem cellAt_lt {S G : List Nat} (hS : S.Pairwise (· < ·)) (hG : G.Pairwise (· < ·)) {i j : Nat}
    (hij : i < j) (hj : j < S.length * G.length) : lexLt (cellAt S G i) (cellAt S G j) := by
  obtain ⟨i1, i2⟩ := cellAt_bounds (Nat.lt_trans hij hj)
  obtain ⟨j1, j2⟩ := cellAt_bounds hj
  rw [List.pairwise_iff_getElem] at hS hG
  simp only [lexLt, cellAt, ← List.getElem_eq_getD (h := i1), ← List.getElem_eq_getD (h := j1),
    ← List.getElem_eq_getD (h := i2), ← List.getElem_eq_getD (h := j2)]
  rcases Nat.lt_or_eq_of_le (Nat.div_le_div_right (c := G.length) (Nat.le_of_lt hij)) with hlt | heq
  · exact Or.inl (hS _ _ i1 j1 hlt)
  · have e1 := Nat.div_add_mod i G.length
    have e2 := Nat.div_add_mod j G.length
    rw [heq] at e1
    exact Or.inr ⟨by simp only [heq], hG _ _ i2 j2 (by omega)⟩

theorem cellIds_sorted (S G : List Nat) (cellMask : Nat) (h1 : S.Pairwise (· < ·)) (h2 : G.Pairwise (· < ·)) :
    (cellIds S G cellMask).Pairwise lexLt := by
  unfold cellIds
  simp only []
  rw [List.pairwise_map]
  refine (List.Pairwise.filter _ List.pairwise_lt_range).imp_of_mem fun _ hj hij => ?_
  exact cellAt_lt h1 h2 hij (List.mem_range.mp (List.mem_filter.mp hj).1)

theorem cellIds_mem_prod (S G : List Nat) (cellMask : Nat) (c : Nat × Nat) (h : c ∈ cellIds S G cellMask) :
    c.1 ∈ S ∧ c.2 ∈ G := by
  obtain ⟨idx, hidx, _, rfl⟩ := (mem_cellIds _ _ _ _).mp h
  obtain ⟨h1, h2⟩ := cellAt_bounds hidx
  simp only [cellAt, ← List.getElem_eq_getD (h := h1), ← List.getElem_eq_getD (h := h2)]
  exact ⟨List.getElem_mem h1, List.getElem_mem h2⟩

theorem Pre.cellIds_eq {tbl : SigTable} (hT : TableOk tbl) {sats : List SatRow} {sigs : List SigRow}
    (P : Pre tbl sats sigs) :
    cellIds (maskIds 64 (satMaskOf sats)) (maskIds 32 (sigMaskOf tbl sigs)) (cellMaskOf tbl sats sigs) =
      (Sig.sortBy (sigLe tbl) sigs).map (cellOf tbl) := by
  have G := P.rowsOk
  have hS := satIds_sorted P.sat_distinct
  have hG := sigIdSet_sorted tbl sigs
  rw [G.maskIds_sat, G.maskIds_sig hT]
  -- both lists are strictly ascending in `lexLt`, so it is enough that they have the same members
  refine (cellIds_sorted _ _ _ hS hG).eq_of_mem_iff
    (List.pairwise_map.mpr (sigs_sorted_strict tbl hT sigs P.sig_known P.cell_distinct)) fun c => ?_
  rw [mem_cellIds, satIds_length, ((Sig.sortBy_perm (sigLe tbl) sigs).map _).mem_iff, List.mem_map]
  constructor
  · rintro ⟨idx, hidx, hbit, rfl⟩
    rw [Nat.mul_comm, G.cellMask_bit hT idx hidx] at hbit
    obtain ⟨g, hg, rfl⟩ := hbit
    have m := G.sig_mem hT g hg
    exact ⟨g, hg, (cellAt_cellIdx hS hG m.1 m.2.1).symm⟩
  · rintro ⟨g, hg, rfl⟩
    have m := G.sig_mem hT g hg
    refine ⟨_, (G.cell_idx hT g hg).2, ?_, cellAt_cellIdx hS hG m.1 m.2.1⟩
    rw [Nat.mul_comm, G.cellMask_bit hT _ (G.cell_idx hT g hg).2]
    exact ⟨g, hg, rfl⟩

theorem lookupSigs_cellOf (tbl : SigTable) (hT : TableOk tbl) (l : List SigRow)
    (hk : ∀ g ∈ l, ∃ i, Sig.toId tbl g.band g.attr = some i) :
    lookupSigs tbl (l.map (cellOf tbl)) = .ok (l.map cellKey) := by
  induction l with
  | nil => rfl
  | cons g t ih =>
    obtain ⟨i, hi⟩ := hk g (.head _)
    have hsig : Sig.toSig tbl (sigIdOf tbl g) = some (g.band, g.attr) :=
      sigIdOf_eq tbl g i hi ▸ toSig_of_toId tbl hT.ids_nodup _ _ _ hi
    rw [List.map_cons, cellOf, lookupSigs_cons, hsig]
    simp only
    rw [ih fun x hx => hk x (.tail _ hx), Res.bind_ok, List.map_cons, cellKey]

theorem lookupSigs_ok (tbl : SigTable) (cells : List (Nat × Nat)) (r : List (Nat × Nat × Nat))
    (h : lookupSigs tbl cells = .ok r) :
    List.Forall₂ (fun c k => k.1 = c.1 ∧ Sig.toSig tbl c.2 = some k.2) cells r := by
  fun_induction lookupSigs tbl cells generalizing r with
  | case1 => cases h; exact .nil
  | case2 sat sid rest b a hs r' hr ih => cases h; exact .cons ⟨rfl, hs⟩ (ih _ hr)
  | case3 => cases h  -- the rest of the list is rejected
  | case4 => cases h  -- (or panics)
  | case5 => cases h  -- the identifier is not in the table

theorem map_range_getD {α} (l : List α) (d : α) : (List.range l.length).map (fun i => l.getD i d) = l := by
  apply List.ext_getElem (by rw [List.length_map, List.length_range])
  intro i h1 h2
  simp only [List.getElem_map, List.getElem_range]
  exact (List.getElem_eq_getD d).symm

theorem mkSats_ids (ids : List Nat) (cols : List (List (List Tok))) : (mkSats ids cols).map (·.id) = ids := by
  unfold mkSats
  rw [List.map_map]
  exact map_range_getD ids 0

theorem mkSigs_keys (cs : List (Nat × Nat × Nat)) (cols : List (List (List Tok))) :
    (mkSigs cs cols).map cellKey = cs := by
  unfold mkSigs
  rw [List.map_map]
  exact map_range_getD cs (0, 0, 0)

theorem decode_ok {cfg : Cfg} {tbl : SigTable} {satFields sigFields : List (String × DfSpec)} {c c' : Cur}
    {sats : List SatRow} {sigs : List SigRow}
    (h : decode cfg tbl satFields sigFields c = .ok (sats, sigs, c')) :
    ∃ satMask c1 sigMask c2,
      parseU cfg 64 64 c = .ok (satMask, c1) ∧ parseU cfg 32 32 c1 = .ok (sigMask, c2) ∧
      ((satMask = 0 ∧ sigMask = 0 ∧ sats = [] ∧ sigs = [] ∧ c' = c2) ∨
       (¬ (satMask = 0 ∧ sigMask = 0) ∧
        1 ≤ popcount 64 satMask * popcount 32 sigMask ∧ popcount 64 satMask * popcount 32 sigMask ≤ 64 ∧
        ∃ cellMask c3 satCols c4 cellSigs sigCols,
          parseU cfg 64 (popcount 64 satMask * popcount 32 sigMask) c2 = .ok (cellMask, c3) ∧
          decColumns cfg (maskIds 64 satMask).length satFields c3 = .ok (satCols, c4) ∧
          lookupSigs tbl (cellIds (maskIds 64 satMask) (maskIds 32 sigMask) cellMask) = .ok cellSigs ∧
          decColumns cfg (cellIds (maskIds 64 satMask) (maskIds 32 sigMask) cellMask).length sigFields c4
            = .ok (sigCols, c') ∧
          sats = mkSats (maskIds 64 satMask) satCols ∧ sigs = mkSigs cellSigs sigCols)) := by
  rw [decode_eq] at h
  obtain ⟨⟨satMask, c1⟩, h1, h⟩ := Res.bind_eq_ok h
  obtain ⟨⟨sigMask, c2⟩, h2, h⟩ := Res.bind_eq_ok h
  refine ⟨satMask, c1, sigMask, c2, h1, h2, ?_⟩
  dsimp only at h
  split at h
  · next hz =>
    cases h
    exact Or.inl ⟨hz.1, hz.2, rfl, rfl, rfl⟩
  · next hz =>
    split at h
    · cases h
    · next hg =>
      obtain ⟨⟨cellMask, c3⟩, h3, h⟩ := Res.bind_eq_ok h
      obtain ⟨⟨satCols, c4⟩, h4, h⟩ := Res.bind_eq_ok h
      obtain ⟨cellSigs, h5, h⟩ := Res.bind_eq_ok h
      obtain ⟨⟨sigCols, c5⟩, h6, h⟩ := Res.bind_eq_ok h
      cases h
      exact Or.inr ⟨hz, by omega, by omega, cellMask, c3, satCols, c4, cellSigs, sigCols, h3, h4, h5, h6,
        rfl, rfl⟩

end Rtcm.MsmLaws
