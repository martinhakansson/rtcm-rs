import Rtcm.Proofs.Float
/-!
Inside one binade the significands are ordered; between two binades lies a power of two, which is a
value of the format and is not crossed. So rounding never crosses a representable value: C11's
monotonicity and "a decoded value is `≥ bias`" in the float round trip rest on this.
-/
namespace Rtcm.SoftFloat

theorem ilog2_mono {x y : ℚ} (hx : 0 < x) (hxy : x ≤ y) : ilog2 x ≤ ilog2 y := by
  have hy : 0 < y := lt_of_lt_of_le hx hxy
  have a1 := pow2_ilog2_le x hx
  have a2 := lt_pow2_ilog2_succ y hy
  have : ilog2 x < ilog2 y + 1 := pow2_lt_pow2_iff.mp (lt_of_le_of_lt (le_trans a1 hxy) a2)
  omega

theorem rneInt_mono {a b : ℚ} (h : a ≤ b) : rneInt a ≤ rneInt b := by
  rcases (Int.floor_le_floor h).lt_or_eq with hfl | hfl
  · -- an integer separates them
    have h1 : rneInt a ≤ ⌊a⌋ + 1 :=
      rneInt_le_of_le_int (by push_cast; exact (Int.lt_floor_add_one a).le)
    have h2 : ⌊b⌋ ≤ rneInt b := rneInt_ge_of_ge_int (Int.floor_le b)
    omega
  · rcases rneInt_cases a with ⟨ea, ha⟩ | ⟨ea, ha⟩ <;>
      rcases rneInt_cases b with ⟨eb, hb⟩ | ⟨eb, hb⟩
    · omega
    · omega
    · -- both are the same tie
      rw [hfl] at ha
      obtain rfl : a = b := by linarith
      exact le_rfl
    · omega

theorem rmv_le_pow2_succ (fmt : Fmt) {x : ℚ} (hx : 0 < x) :
    rmv fmt x ≤ pow2 (max (ilog2 x) fmt.emin + 1) := by
  have h : ((signif fmt x : Int) : ℚ) ≤ 2 ^ fmt.p := by exact_mod_cast signif_le fmt hx
  refine (mul_le_mul_of_nonneg_right h (pow2_pos _).le).trans_eq ?_
  rw [two_pow_mul_pow2]; unfold texp; congr 1; ring

theorem pow2_ilog2_le_rmv (fmt : Fmt) (hp : 1 ≤ fmt.p) {y : ℚ} (hy : 0 < y)
    (hn : fmt.emin ≤ ilog2 y) : pow2 (ilog2 y) ≤ rmv fmt y := by
  have h : (2 : ℚ) ^ (fmt.p - 1) ≤ ((signif fmt y : Int) : ℚ) := by
    exact_mod_cast le_signif fmt hp hy hn
  refine Eq.trans_le ?_ (mul_le_mul_of_nonneg_right h (pow2_pos _).le)
  rw [two_pow_mul_pow2]; unfold texp; congr 1; omega

theorem rmv_mono (fmt : Fmt) (hp : 1 ≤ fmt.p) {x y : ℚ} (hx : 0 ≤ x) (hxy : x ≤ y) :
    rmv fmt x ≤ rmv fmt y := by
  rcases hx.eq_or_lt with h0 | hpos
  · subst h0; rw [rmv_zero]; exact rmv_nonneg fmt hxy
  have hy : 0 < y := lt_of_lt_of_le hpos hxy
  have hil := ilog2_mono hpos hxy
  by_cases hee : max (ilog2 x) fmt.emin = max (ilog2 y) fmt.emin
  · -- same exponent
    have ht : texp fmt x = texp fmt y := by unfold texp; rw [hee]
    have hpt := pow2_pos (texp fmt y)
    unfold rmv
    rw [ht]
    exact mul_le_mul_of_nonneg_right
      (Int.cast_le.mpr (rneInt_mono (div_le_div_of_nonneg_right hxy hpt.le))) hpt.le
  · -- `y` lies in a higher binade
    have hn : fmt.emin < ilog2 y := by omega
    calc rmv fmt x ≤ pow2 (max (ilog2 x) fmt.emin + 1) := rmv_le_pow2_succ fmt hpos
      _ ≤ pow2 (ilog2 y) := pow2_le_pow2_iff.mpr (by omega)
      _ ≤ rmv fmt y := pow2_ilog2_le_rmv fmt hp hy hn.le

theorem rnd_mono (fmt : Fmt) (hp : 1 ≤ fmt.p) {x y : ℚ} (hxy : x ≤ y) :
    rnd fmt x ≤ rnd fmt y := by
  rcases le_total 0 x with hx | hx
  · rw [rnd_of_nonneg fmt hx, rnd_of_nonneg fmt (le_trans hx hxy)]
    exact rmv_mono fmt hp hx hxy
  · rcases le_total 0 y with hy | hy
    · exact le_trans (rnd_nonpos fmt hx) (rnd_nonneg fmt hy)
    · have := rmv_mono fmt hp (neg_nonneg.mpr hy) (neg_le_neg hxy)
      rw [← rnd_of_nonneg fmt (neg_nonneg.mpr hy), ← rnd_of_nonneg fmt (neg_nonneg.mpr hx),
        rnd_neg, rnd_neg] at this
      exact neg_le_neg_iff.mp this

theorem truncRat_mono {x y : ℚ} (hxy : x ≤ y) : truncRat x ≤ truncRat y := by
  rcases le_total 0 x with hx | hx
  · rw [truncRat_of_nonneg hx, truncRat_of_nonneg (hx.trans hxy)]
    exact Int.floor_le_floor hxy
  · rw [truncRat_of_nonpos hx]
    have h0 : -⌊-x⌋ ≤ 0 := neg_nonpos.mpr (Int.floor_nonneg.mpr (neg_nonneg.mpr hx))
    rcases le_total 0 y with hy | hy
    · rw [truncRat_of_nonneg hy]; exact h0.trans (Int.floor_nonneg.mpr hy)
    · rw [truncRat_of_nonpos hy]; exact neg_le_neg (Int.floor_le_floor (neg_le_neg hxy))

theorem rmv_le_natCast (fmt : Fmt) (hp : 1 ≤ fmt.p) (hemin : fmt.emin ≤ (fmt.p : Int) - 1)
    {x : ℚ} (hx : 0 ≤ x) (n : Nat) (hn : n < 2 ^ fmt.p) (h : x ≤ n) : rmv fmt x ≤ n := by
  have := rmv_mono fmt hp hx h
  rwa [rmv_natCast fmt hemin n hn] at this

theorem natCast_le_rmv (fmt : Fmt) (hp : 1 ≤ fmt.p) (hemin : fmt.emin ≤ (fmt.p : Int) - 1)
    {x : ℚ} (n : Nat) (hn : n < 2 ^ fmt.p) (h : (n : ℚ) ≤ x) : (n : ℚ) ≤ rmv fmt x := by
  have := rmv_mono fmt hp (Nat.cast_nonneg n) h
  rwa [rmv_natCast fmt hemin n hn] at this

end Rtcm.SoftFloat

#print axioms Rtcm.SoftFloat.rmv_mono
#print axioms Rtcm.SoftFloat.rnd_mono
#print axioms Rtcm.SoftFloat.truncRat_mono
#print axioms Rtcm.SoftFloat.rmv_le_natCast
#print axioms Rtcm.SoftFloat.natCast_le_rmv
